import PyecoreModel.Lemmas.OSet
/-!
# C04 — Multi-valued features behave like the collection they declare

Model: `Py.OSet` (`Model/OSet.lean`) = `ordered_set.OrderedSet` + pyecore's patch, which is the base
class of `EOrderedSet`/`ESet`; `Py.listStep` = a plain Python list subjected to the same operations
("insertions of already-present elements ignored when unique").  `EList`/`EBag` *are* Python lists
(their base class is `list`), so for them the specification is the implementation and only the
correspondence check has something to say.

Only the property statements and their test vectors live here; helper lemmas are in `Lemmas/OSet.lean`.
-/
namespace Py
variable {α : Type} [DecidableEq α]

/-- **One step**: from any state satisfying the invariant, every operation (any index, also negative or out of
range; any element, present or not) (i) leaves `items` exactly as the list specification does,
(ii) returns the same value or raises exactly when the list raises, (iii) re-establishes the invariant. -/
theorem C04_step (s : OSet α) (op : COp α) (h : s.MapOK) :
    (s.step op).1.items = (listStep true s.items op).1
    ∧ sameOutcome (s.step op).2 (listStep true s.items op).2
    ∧ (s.step op).1.MapOK := by
  cases op with
  | add x =>
    obtain ⟨e, h'⟩ := OSet.add_spec s x h
    simp only [OSet.step, listStep, Bool.true_and, e]
    split <;> exact ⟨rfl, rfl, h'⟩
  | insert i x =>
    obtain ⟨e, h'⟩ := OSet.insert_spec s i x h
    simp only [OSet.step, listStep, Bool.true_and, e]
    split <;> exact ⟨rfl, rfl, h'⟩
  | pop i | delItem i =>
    simp only [OSet.step, listStep, OSet.delItem]
    rcases OSet.pop_spec s i with ⟨hq, e, hp⟩ | ⟨s', y, hq, hp, h'⟩ <;> rw [hp, hq]
    · exact ⟨rfl, trivial, h⟩
    · exact ⟨rfl, rfl, h' h⟩
  | remove x =>
    rw [OSet.step, listStep, OSet.remove, pyRemove]
    by_cases hx : x ∈ s.items
    · rw [if_pos (h.mem_iff.2 hx), if_pos hx]; exact ⟨(OSet.discard_spec s x h).1, rfl, (OSet.discard_spec s x h).2⟩
    · rw [if_neg (mt h.mem_iff.1 hx), if_neg hx]; exact ⟨rfl, trivial, h⟩
  | discard x => exact ⟨(OSet.discard_spec s x h).1, rfl, (OSet.discard_spec s x h).2⟩
  | clear => exact ⟨rfl, rfl, OSet.empty_mapOK⟩
  | setItem i x =>
    rw [OSet.step, listStep, OSet.setItem, if_pos rfl]
    by_cases h0 : (if i < 0 then (s.items.length : Int) + i else i) < 0
    · rw [if_pos h0, pyPop, normIdx_of_neg h0]; exact ⟨rfl, trivial, h⟩
    · -- `pop` sees its index only through `normIdx`
      rw [if_neg h0, show s.pop _ = s.pop i by rw [OSet.pop, OSet.pop, normIdx_pre (Int.not_lt.1 h0)]]
      rcases OSet.pop_spec s i with ⟨hq, e, hp⟩ | ⟨s', y, hq, hp, h'⟩ <;> rw [hp, hq]
      · exact ⟨rfl, trivial, h⟩
      · obtain ⟨k, hk, -⟩ := pyPop_spec hq
        obtain ⟨e, h''⟩ := OSet.insert_spec s' k x (h' h)
        -- both sides insert at the normalised position `k`
        simp only [hk, ← (normIdx_eq_some.1 hk).1, e]
        split <;> exact ⟨rfl, rfl, h''⟩

/-- **Every history**: after any finite sequence of operations from the empty collection the contents are those of
the list specification and the invariant holds. -/
theorem C04_run (ops : List (COp α)) :
    (OSet.run ops).items = listRun true ops ∧ (OSet.run ops).MapOK := by
  refine List.foldl_rel (r := fun (s : OSet α) l => s.items = l ∧ s.MapOK) ⟨rfl, OSet.empty_mapOK⟩ fun op _ s l ⟨hl, h⟩ => ?_
  subst hl
  exact ⟨(C04_step s op h).1, (C04_step s op h).2.2⟩

/-- A unique multi-valued feature never holds an element twice. -/
theorem C04_no_dup (ops : List (COp α)) : (OSet.run ops).items.Nodup := (C04_run ops).2.1

/-- The position reported for an element is the position at which iteration yields it (and conversely). -/
theorem C04_index_is_position (ops : List (COp α)) (k : α) (i : Nat) :
    (OSet.run ops).index k = some i ↔ (OSet.run ops).items[i]? = some k := (C04_run ops).2.2 k i

/-- Membership (`x in c`, answered from the map) is membership in the iteration. -/
theorem C04_contains (ops : List (COp α)) (k : α) :
    (OSet.run ops).contains k = true ↔ k ∈ listRun true ops := by
  rw [← (C04_run ops).1]; exact (C04_run ops).2.mem_iff

/-- Length and positional access are those of the list. -/
theorem C04_len_get (ops : List (COp α)) (i : Int) :
    (OSet.run ops).len = (listRun true ops).length ∧ (OSet.run ops).getItem i = pyGet (listRun true ops) i := by
  unfold OSet.len OSet.getItem; rw [(C04_run ops).1]; exact ⟨rfl, rfl⟩

/-- **Slice deletion** `del c[a:b:k]` on a list-like feature (specification `pyDelSlice`, the positions of
`slice(a, b, k).indices(len(c))` as CPython computes them — omitted, negative and out-of-range bounds, negative steps):
what remains is what was there, in its order, nothing added. -/
theorem C04_delslice_sublist {α : Type} (l : List α) (a b : Option Int) (k : Int) : (pyDelSlice l a b k).Sublist l := by
  unfold pyDelSlice
  have h : ((l.zipIdx.filter (fun (x : α × Nat) => !(slicePositions l.length a b k).contains x.2)).map (·.1)).Sublist
      (l.zipIdx.map (·.1)) := (List.filter_sublist).map _
  simpa using h

/-! ### Non-vacuity: concrete histories exercise the interesting branches (kernel-evaluated) -/

/-- `pop()` with the default index `-1`, then positions are still right: the history on which the unrepaired
patch (`if elem != -1` / `v >= index` with a negative index) corrupted the map. -/
example : let s := OSet.run (α := Nat) [.add 10, .add 11, .add 12, .pop (-1)]
    s.items = [10, 11] ∧ s.index 10 = some 0 ∧ s.index 11 = some 1 ∧ s.index 12 = none := by decide +kernel

example : let s := OSet.run (α := Nat) [.add 10, .add 11, .add 12, .pop (-3), .insert (-1) 13, .setItem (-1) 10]
    s.items = [11, 13, 10] ∧ s.index 11 = some 0 ∧ s.index 13 = some 1 ∧ s.index 10 = some 2 ∧ s.index 12 = none := by decide +kernel

example : ((OSet.run (α := Nat) [.add 1]).step (.pop 5)).2 = .error .indexError := by rfl
example : ((OSet.run (α := Nat) []).step (.pop (-1))).2 = .error .keyError := by rfl

example : pyDelSlice [10, 11, 12, 13, 14] none none (-2) = [11, 13] ∧ pyDelSlice [10, 11, 12, 13, 14] (some 4) (some 0) (-2) = [10, 11, 13] ∧
    pyDelSlice [10, 11, 12] (some (-9)) (some 9) 1 = [] ∧ pyDelSlice [10, 11, 12] (some 1) none 3 = [10, 12] := by decide +kernel

end Py
