import PyecoreModel.Lemmas.Defaults
/-!
# C15 — Unset features read as their default, privately, and reading is free

Model: `Model/Defaults.lean`.  `src f` is what `get_default_value()` evaluates to for feature `f`; the check reads it
off the real declaration on every run (default literal / explicit default / type default / factory), so a change of
the declaration-time logic shows up as a different `src` table, not as a silent mismatch.
-/
namespace Dflt

/-- **A feature that has no holder yet and is not in `_isset` reads as its default and stays unset.** -/
theorem C15_default (src : Nat → Src) (s : St) (o f : Nat) (hh : s.holder o f = Option.none)
    (hi : s.isset o f = false) :
    (read src s o f).1 = (dflt src s f).1 ∧ (read src s o f).2.isset o f = false := by
  rw [read_isset, read_unheld src hh]
  exact ⟨rfl, hi⟩

/-- **Only writing and deleting set a feature**: after a history that does neither to `o.f` — reads of it included —
it is still unset. -/
theorem C15_never_set (src : Nat → Src) (n : Nat) (ops : List Op) (o f : Nat)
    (h : ∀ op ∈ ops, touches o f op = false) : (run src n ops).isset o f = false := by
  rw [run, run_isset, List.any_eq_false.2 fun op hop => ne_true_of_eq_false (h op hop)]
  rfl

/-- **Reading is free**: it changes neither `_isset` nor what `save()` would write, for any object and feature; and a
second read returns the same value. -/
theorem C15_read_pure (src : Nat → Src) (s : St) (o f : Nat)
    (hal : ∀ o f c, s.holder o f = some (.cell c) → c < s.next) :
    (read src s o f).2.isset = s.isset ∧
    (∀ o' f', saved (read src s o f).2 o' f' = saved s o' f' ∨ s.isset o' f' = true ∧ s.holder o' f' = Option.none) ∧
    (read src (read src s o f).2 o f).1 = (read src s o f).1 := by
  refine ⟨read_isset src s o f, ?_, by rw [read_held src (read_holds src s o f)]⟩
  intro o' f'
  unfold saved
  rw [read_isset]
  cases hi : s.isset o' f' with
  | false => exact Or.inl rfl
  | true =>
    cases hw : s.holder o' f' with
    | none => exact Or.inr ⟨rfl, rfl⟩
    | some w =>
      left
      rw [read_keeps src o f hw, Option.map_some, Option.map_some, read_view src o f hal hw]

/-- **Deleting restores the default** (the value `get_default_value()` yields at that moment). -/
theorem C15_delete (src : Nat → Src) (s : St) (o f : Nat) :
    (read src (del src s o f) o f).1 = (dflt src s f).1 := by
  unfold del read write St.setHolder; simp

/-- **Objects never share feature state**: mutating the value obtained by reading `o1.f1` never changes what any
other feature of any object holds, nor the contents of what it holds — after any history, provided no declaration
hands out a shared mutable default (`NoShared`, decided on the regenerated table of the real declarations). -/
theorem C15_private (src : Nat → Src) (hs : NoShared src) (s : St) (h : NoAlias s)
    (o1 f1 o2 f2 : Nat) (k : Int) (hne : ¬ (o1 = o2 ∧ f1 = f2)) (v : V) (hv : s.holder o2 f2 = some v) :
    (step src s (.mutateRead o1 f1 k)).holder o2 f2 = some v ∧
    view (step src s (.mutateRead o1 f1 k)) v = view s v := by
  -- reading (o1, f1) does not disturb the holder of (o2, f2), nor the contents of what it holds
  have hkeep := read_keeps src o1 f1 hv
  have hview := read_view src o1 f1 h.1 hv
  simp only [step]
  split
  · rename_i c hc
    refine ⟨hkeep, ?_⟩
    rw [← hview]
    cases v with
    | none | imm => rfl
    | cell c2 =>
      -- after the read (o1, f1) holds `c` and (o2, f2) holds `c2`: without aliasing they differ
      have hcne : c2 ≠ c := by
        intro e; subst e
        exact hne ((noAlias_read hs h o1 f1).2.1 _ _ _ _ _ (by rw [read_holds, hc]) hkeep)
      simp [view, mutate, hcne]
  · exact ⟨hkeep, hview⟩

/-- … in particular after every history from the initial state. -/
theorem C15_private_reachable (src : Nat → Src) (hs : NoShared src) (n : Nat) (ops : List Op)
    (o1 f1 o2 f2 : Nat) (k : Int) (hne : ¬ (o1 = o2 ∧ f1 = f2)) (v : V)
    (hv : (run src n ops).holder o2 f2 = some v) :
    (step src (run src n ops) (.mutateRead o1 f1 k)).holder o2 f2 = some v ∧
    view (step src (run src n ops) (.mutateRead o1 f1 k)) v = view (run src n ops) v :=
  C15_private src hs _ (noAlias_run hs n ops) o1 f1 o2 f2 k hne v hv

/-! ### Non-vacuity, and the excluded corner -/

/-- feature 0: factory (map-typed attribute), feature 1: type default 0 -/
def exSrc : Nat → Src := fun f => if f = 0 then .factory [] else .imm 0

example : NoShared exSrc := by intro f c; unfold exSrc; split <;> simp

/-- two objects read their (fresh) maps, one is mutated, the other still reads empty; reads never set `_isset` -/
example :
    let s := run exSrc 0 [.read 0 0, .read 1 0, .mutateRead 0 0 7, .read 1 1]
    view s ((read exSrc s 0 0).1) = (.cell 0, [7]) ∧ view s ((read exSrc s 1 0).1) = (.cell 1, []) ∧
    s.isset 0 0 = false ∧ s.isset 1 1 = false ∧ (read exSrc s 1 1).1 = .imm 0 := by decide +kernel

/-- **Counterexample with a shared default** (an explicit mutable `default_value`, recorded finding F-C15-1; the
factory defaults behaved like this before the repair): object 1 sees what was written through object 0. -/
theorem C15_counterexample_shared :
    let src : Nat → Src := fun _ => .shared 0
    let s := run src 1 [.mutateRead 0 0 7]
    view s ((read src s 1 0).1) = (.cell 0, [7]) := by decide

end Dflt
