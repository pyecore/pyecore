import PyecoreModel.Model.SaveSkeleton
import PyecoreModel.Generated.Skeletons
/-!
# C16 — save() only observes the model and never destroys the previous file

`Generated/Skeletons.lean` holds the ordered effect steps of `XMIResource.save` and `JsonResource.save`, read off their
AST on every run.  `runSave` interprets such a skeleton over a file store; `build` (turning the model into a tree /
dict / bytes) is the only step that can fail because the *model* cannot be serialized.

* `C16_atomic_general`: any skeleton that builds before it opens the target leaves the target's content untouched when
  the build fails — for every previous content and every skeleton.
* `C16_xmi_builds_first`, `C16_json_builds_first`: the skeletons of the code *as it is now* have that shape
  (kernel-evaluated on the regenerated file: an edit that opens the stream earlier breaks these).
* `C16_atomic`: hence a failing save leaves the previous file.
* purity and determinism: in the model the build is a function of the state and has no state output; that the real
  `save()` changes nothing observable and writes identical bytes twice is what the check's oracle compares (whole-model
  dump incl. `eIsSet`, bytes of two consecutive saves) on generated models, both formats, all options.
-/
namespace Skel

theorem C16_atomic_general (content : Bytes) (steps : List SaveStep) (previous : Option Bytes)
    (h : buildBeforeOpen steps = true) (hb : steps.contains .build = true) :
    (runSave content true steps { file := previous } none).1.file = previous ∧
    (runSave content true steps { file := previous } none).2 = true := by
  -- with the target not yet opened, the steps in front of the failing `build` do nothing to the file store
  induction steps with
  | nil => cases hb
  | cons st rest ih =>
    cases st with
    | build => exact ⟨rfl, rfl⟩
    | openOut =>
      -- no `build` after the `openOut`, and none in front of it
      rw [buildBeforeOpen, Bool.not_eq_true'] at h
      rw [List.contains_cons, h] at hb
      cases hb
    | write | flush | close => exact ih h hb

theorem C16_xmi_builds_first : buildBeforeOpen xmiSave = true ∧ xmiSave.contains .build = true := by decide
theorem C16_json_builds_first : buildBeforeOpen jsonSave = true ∧ jsonSave.contains .build = true := by decide

/-- **A save that fails because the model cannot be serialized leaves the previous content of the target**, for the
XMI and the JSON skeleton of the current source, whatever was there before. -/
theorem C16_atomic (content : Bytes) (previous : Option Bytes) :
    (runSave content true xmiSave { file := previous } none).1.file = previous ∧
    (runSave content true jsonSave { file := previous } none).1.file = previous :=
  ⟨(C16_atomic_general content xmiSave previous C16_xmi_builds_first.1 C16_xmi_builds_first.2).1,
   (C16_atomic_general content jsonSave previous C16_json_builds_first.1 C16_json_builds_first.2).1⟩

/-- a successful save writes exactly what the build produced, twice in a row the same -/
theorem C16_success (content : Bytes) (previous : Option Bytes) :
    (runSave content false xmiSave { file := previous } none).1.file = some content ∧
    (runSave content false xmiSave (runSave content false xmiSave { file := previous } none).1 none).1.file = some content ∧
    (runSave content false jsonSave { file := previous } none).1.file = some content :=
  ⟨rfl, rfl, rfl⟩

/-- the converse, kept as the counterexample of the unrepaired order: opening first destroys the file -/
theorem C16_counterexample_open_first :
    (runSave [1] true [.openOut, .build, .write, .flush, .close] { file := some [7, 7] } none).1.file = some [] := by
  decide

end Skel
