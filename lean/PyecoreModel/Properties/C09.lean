import PyecoreModel.Model.JsonValues
import PyecoreModel.Lemmas.XmiValues
import PyecoreModel.Lemmas.Codec
import PyecoreModel.Lemmas.StoreStep
import PyecoreModel.Lemmas.JsonDoc
import PyecoreModel.Lemmas.XmiDocIds
/-!
# C09 — JSON save then load reproduces the model  (**partial: layer theorems; the composition is decided by the check**)

Full statement (kept visible): as C08 with JSON for XML — `canon (load (save s r opts)) = canon s r`, values keep their
JSON-native kind, a unique collection holds no target twice after load.

Proved for all inputs: the value layer (`C09_value_roundtrip`: every modelled attribute value is read back as itself,
native kinds natively, enumeration literals by name, dates through the ISO text of C17), single-valued elision and
`null` (`C09_one_roundtrip`), many-valued attributes (`C09_many_roundtrip`), and "no duplicates" as a consequence of the
C02 invariant for any load that performs Store operations on real targets (`C09_no_dup`).  References and order are the
same layers as in C08 (C11, `C08_id_lookup`, `C08_reorder`).
The composition is proved at the level of the JSON value tree (`Model/JsonDoc.lean`): `C09_tree_roundtrip` (any depth,
every feature kind and option), `C09_document` (forest + two-pass resolution, given that tokens resolve back),
`C09_document_fragment` (that hypothesis discharged for fragment addressing) and `C09_document_addressing` (… for every
addressing mode — uuid, id attribute value, fragment — provided no two objects go by the same key).
**Not proved**: the text level below the value tree (Python's `json` module), cross-resource references and proxies,
and that pyecore's objects correspond to the model's trees; decided on every run by the correspondence (`driver jdoc`)
and by the isomorphism oracle (with proxies standing for their targets) on generated (metamodel, model, options) triples.
-/
namespace Json

/-- well-formed value: an enumeration literal is one of its enumeration, names unique; a date fits the fixed-width
form -/
def AV.WF : AV → Prop
  | .lit names k => names.Nodup ∧ k < names.length
  | .date d => d.Fits
  | _ => True

/-- **every attribute value is read back as itself**, in its JSON-native kind where it has one -/
theorem C09_value_roundtrip (v : AV) (h : v.WF) : decodeVal v.kind (encodeVal v) = some v := by
  cases v with
  | lit names k =>
    simp [AV.kind, encodeVal, decodeVal, List.getD, List.getElem?_eq_getElem h.2, Codec.enum_roundtrip names h.1 k h.2]
  | date d => simp [AV.kind, encodeVal, decodeVal, Codec.parseDate_fmtDate d h]
  | _ => rfl

/-- single-valued attribute: None ↔ null, default elision, both option settings -/
theorem C09_one_roundtrip (sd : Bool) (k : Kind) (dflt value : Option AV)
    (hk : ∀ v, value = some v → v.kind = k ∧ v.WF) :
    decodeOne k dflt (encodeOne sd dflt value) = some value := by
  cases value with
  | none => cases dflt <;> cases sd <;> rfl
  | some v =>
    obtain ⟨rfl, hwf⟩ := hk v rfl
    simp only [encodeOne]
    split
    · simp only [decodeOne, C09_value_roundtrip v hwf]; rfl
    · next h =>
      simp at h
      simp only [decodeOne, h.1]

/-- many-valued attribute: order and duplicates kept -/
theorem C09_many_roundtrip (k : Kind) (vs : List AV) (hk : ∀ v ∈ vs, v.kind = k ∧ v.WF) :
    decodeMany k (encodeMany vs) = some vs := by
  have h : ∀ v ∈ vs, (decodeVal k ∘ encodeVal) v = some (id v) := fun v hv => by
    obtain ⟨rfl, hwf⟩ := hk v hv
    exact C09_value_roundtrip v hwf
  simp only [encodeMany, decodeMany, List.mapM_map, Py.mapM_some_of_forall _ _ vs h, List.map_id]

/-- **no target twice in a unique collection**: whatever sequence of Store operations a load performs on real
targets, the C02 cardinality invariant holds afterwards (it is the proxies standing in for local targets that used to
break this; the repair is listed in `known_findings.json`). -/
theorem C09_no_dup (mm : Store.MM) (hwf : mm.WF) (ops : List Store.Op) (x : Store.Oid) (f : Store.Fid)
    (hu : (mm.feat f).isList = false) : ((Store.run mm ops).rs x f).Nodup :=
  ((Store.inv_run mm hwf ops).2.1 x f).2 hu

example : decodeVal (.enum ["A", "B"]) (encodeVal (.lit ["A", "B"] 1)) = some (.lit ["A", "B"] 1) := by decide +kernel
example : encodeOne false (some (.bool false)) none = .nil ∧ encodeOne false (some (.int 0)) (some (.int 0)) = .absent :=
  ⟨rfl, rfl⟩

end Json

/-! ## The document layer (`Model/JsonDoc.lean`): a whole containment tree, value by value -/
namespace JDoc
open XDoc Xmi

/-- **Value-level round trip.**  For every well-formed object tree — any depth and width, every mix of unset / None /
    default / empty values, `eClass` written or implied, uuid mode or not, both SERIALIZE_DEFAULT_VALUES settings — what
    `to_obj` builds from the dictionary `to_dict_from_obj` wrote is the object's normal form: class, every attribute and
    reference with its effective value in order (attribute values with their JSON kind), the same children under the
    same containment features in order. -/
theorem C09_tree_roundtrip (mm : MMX) (o : Opts) (hmm : MMJ mm) (n : SNode JRef) (h : WFJ mm n) (top : Bool) (decl : Nat)
    (via' : Str) (hv : top = false → via' = n.via) :
    jDec mm top via' decl (jEnc mm o top decl n) = some (eff mm o top (mapT JRef.tok n)) :=
  jdec_enc mm o hmm n h top decl via' hv

/-- the reference written for a path: the class of the target and the token -/
def jref (mm : MMX) (o : Opts) (render : Path → Str) (roots : List (SNode Path)) (p : Path) : JRef :=
  ⟨match nodeAt roots p with | some n => mm.cname n.cls | Option.none => [], tokenOf mm o render roots p⟩

/-- **Document-level round trip.**  References written as `{"eClass": …, "$ref": token}` and resolved once the tree
    exists: the whole forest comes back (uuids included: `to_obj` keeps them on the objects since repair 41d1d7b) with
    every reference on its original target, provided each token resolves in the loaded forest to the path it was
    written for. -/
theorem C09_document (mm : MMX) (o : Opts) (hmm : MMJ mm) (render : Path → Str) (parse : Str → Option Path)
    (roots : List (SNode Path))
    (hwf : ∀ r ∈ roots, WFG mm (fun _ => True) r)
    (hvalid : ∀ r ∈ roots, AllRefs (fun p => (nodeAt roots p).isSome = true) r)
    (hres : ∀ r ∈ roots, AllRefs (fun p =>
        resolveTok mm o parse (roots.map fun r => eff mm o true (mapT (tokenOf mm o render roots) r))
          (tokenOf mm o render roots p) = some p) r) :
    (jEncodeDoc mm o render roots).bind (jDecodeDoc mm o parse) = some (roots.map (eff mm o true)) := by
  apply doc_roundtrip_codec mm o (jEnc mm o true 0) (jDec mm true [] 0) (jrefOf mm o render roots)
    (jref mm o render roots) (tokenOf mm o render roots) (resolveTok mm o parse) roots _ _ hres
  · refine fun r hr => mapRefs_some _ _ r (AllRefs_mono _ _ (fun p hp => ?_) r (hvalid r hr))
    obtain ⟨n, hn⟩ := Option.isSome_iff_exists.mp hp
    simp only [jref, jrefOf, hn]
  · intro r hr
    rw [jdec_enc mm o hmm _ (WFG_mapT mm _ (fun _ => True) _ (fun _ _ => trivial) r (hwf r hr)) true 0 []
      (by intro h; cases h), mapT_comp]
    rfl

/-- … and with fragment addressing (no uuids, no id attributes) nothing is left to assume about resolution. -/
theorem C09_document_fragment (mm : MMX) (o : Opts) (hmm : MMJ mm) (single : Bool) (roots : List (SNode Path))
    (hu : o.uuid = false) (hid : ∀ c, ∀ fi ∈ mm.feats c, fi.isId = false)
    (hsingle : single = true → roots.length = 1)
    (hwf : ∀ r ∈ roots, WFG mm (fun _ => True) r)
    (hrefs : ∀ r ∈ roots, AllRefs (fun p => (nodeAt roots p).isSome = true ∧ (∀ s ∈ p.segs, NameOK s.1 ∧ '#' ∉ s.1)) r) :
    (jEncodeDoc mm o (renderPath single) roots).bind (jDecodeDoc mm o parsePath)
      = some (roots.map (eff mm o true)) := by
  apply C09_document mm o hmm (renderPath single) parsePath roots hwf
  · exact AllRefsL_mono _ _ (fun _ h => h.1) roots hrefs
  · refine AllRefsL_mono _ _ (fun p h => ?_) roots hrefs
    -- without keys the token is the fragment text
    rw [tokenOf_fragment mm o _ roots p hu hid]
    exact resolve_fragment mm o hmm.toMMOK _ _ roots _ hwf p h.1 (fragOK_renderPath single roots hsingle p h.1 h.2)

/-- the JSON counterpart of `doc_roundtrip_uuid` -/
theorem jdoc_roundtrip_uuid (mm : MMX) (o : Opts) (hmm : MMJ mm) (render : Path → Str) (parse : Str → Option Path)
    (roots : List (SNode Path))
    (hu : o.uuid = true) (hid : ∀ c, ∀ fi ∈ mm.feats c, fi.isId = false)
    (hwf : ∀ r ∈ roots, WFG mm (fun _ => True) r)
    (hrefs : ∀ r ∈ roots, AllRefs (fun p => ∃ n, (p, n) ∈ allNodes mm roots) r)
    (htok : ∀ q m, (q, m) ∈ allNodes mm roots → UuidTok m.uuid)
    (hdist : ∀ q m q' m', (q, m) ∈ allNodes mm roots → (q', m') ∈ allNodes mm roots → m.uuid = m'.uuid → q = q') :
    (jEncodeDoc mm o render roots).bind (jDecodeDoc mm o parse) = some (roots.map (eff mm o true)) :=
  C09_document mm o hmm render parse roots hwf
    (AllRefsL_mono _ _ (fun p ⟨n, hn⟩ => Option.isSome_of_eq_some (nodeAt_of_mem mm roots hwf p n hn)) roots hrefs)
    (AllRefsL_mono _ _ (fun p ⟨n, hn⟩ =>
      (token_resolves_uuid mm o hmm.toMMOK render parse roots hu hid hwf htok hdist p n hn).2) roots hrefs)

/-- **Document level, every addressing mode.**  Whatever addresses a target — its uuid, the value of its id attribute, or
    its fragment path — nothing is left to assume about resolution, provided no two objects go by the same key. -/
theorem C09_document_addressing (mm : MMX) (o : Opts) (hmm : MMJ mm) (hid : IdOK mm) (single : Bool) (roots : List (SNode Path))
    (hsingle : single = true → roots.length = 1)
    (hwf : ∀ r ∈ roots, WFG mm (fun _ => True) r)
    (hrefs : ∀ r ∈ roots, AllRefs (Target mm single roots) r)
    (huuid : o.uuid = true → ∀ q m, (q, m) ∈ allNodes mm roots → UuidTok m.uuid ∧ Word mm.ws m.uuid)
    (hdist : ∀ q m q' m' k, (q, m) ∈ allNodes mm roots → (q', m') ∈ allNodes mm roots →
      k ∈ keysOf mm o m → k ∈ keysOf mm o m' → q = q') :
    (jEncodeDoc mm o (renderPath single) roots).bind (jDecodeDoc mm o parsePath)
      = some (roots.map (eff mm o true)) :=
  C09_document mm o hmm (renderPath single) parsePath roots hwf
    (AllRefsL_mono _ _ (fun p ⟨⟨n, hn⟩, _, _⟩ => Option.isSome_of_eq_some (nodeAt_of_mem mm roots hwf p n hn)) roots hrefs)
    (AllRefsL_mono _ _ (fun p hp =>
      (token_resolves_target mm o hmm.toMMOK hid single roots hsingle hwf huuid hdist p hp).2) roots hrefs)

end JDoc
