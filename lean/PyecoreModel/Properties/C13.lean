import PyecoreModel.Model.Static
import PyecoreModel.Lemmas.Operations
import PyecoreModel.Lemmas.PyList
/-!
# C13 — static and dynamic definitions of a metamodel are interchangeable

Model: `Model/Static.lean`.  The reflective description of a metaclass is what every other model of this project takes
as its metamodel parameter (`Store.MM`, the codecs' tables), so "same description" is what carries "same behaviour" from
one rendering to the other; that both renderings really behave like the model driven by that description is the
correspondence half (`harness/c13.py`).
-/
namespace Static
open Ops

theorem reflect_decl (f : FDescr) : reflectFeat f.name (declOf f) = f := rfl

theorem promote_funcOf (op : Op) (h : OpOK op) :
    Ops.promote ⟨(funcOf op).1, op.name, .function, op.params.map (·.name), (op.params.filter (!·.required)).length⟩
      = some op := by
  obtain ⟨name, params⟩ := op
  obtain ⟨hn, req, opt, rfl, hr, ho⟩ := h
  rw [promote_eq, if_pos ⟨rfl, hn, rfl⟩]
  exact congrArg (some <| Op.mk name ·)
    (reflParams_self (req := ⟨"self", true⟩ :: req) (List.forall_mem_cons.2 ⟨rfl, hr⟩) ho)

/-- **Same reflective description.**  Rendering a description as a static class and reflecting it gives the description
    back: name, abstractness, supertypes in order, structural features in order with all their properties, operations
    with their parameters. -/
theorem C13_describe (c : CDescr) (h : c.OK) : promote (render c) = c := by
  obtain ⟨name, abstr, supers, feats, ops⟩ := c
  obtain ⟨hs, ho⟩ := h
  unfold promote render
  -- entry by entry: a rendered feature reflects to the feature (`reflect_decl`) and is no operation, a rendered
  -- operation reflects to the operation (`promote_funcOf`) and is no feature; `filterMap_map_eq_self` collects them
  congr 1
  · cases supers with
    | nil => rfl
    | cons s t => exact List.filter_eq_self.2 fun x hx => by simp [hs x hx]
  · rw [List.filterMap_append, Py.filterMap_map_eq_self (l := feats),
      List.filterMap_eq_nil_iff.2 (List.forall_mem_map.2 fun _ _ => rfl), List.append_nil]
    exact fun f _ => congrArg some (reflect_decl f)
  · rw [List.filterMap_append, Py.filterMap_map_eq_self (l := ops),
      List.filterMap_eq_nil_iff.2 (List.forall_mem_map.2 fun _ _ => rfl), List.nil_append]
    exact fun op hop => promote_funcOf op (ho op hop)

/-- **Interchangeable.**  Whatever is determined by the reflective descriptions of a metamodel's classes — the Store
    semantics (`Store.step` over the metamodel built from them), the codecs, the serialisers — is the same for the
    metamodel written as static classes and for the one built from EClass instances. -/
theorem C13_interchangeable {α : Type} (sem : List CDescr → α) (cs : List CDescr) (h : ∀ c ∈ cs, c.OK) :
    sem (cs.map fun c => promote (render c)) = sem cs :=
  congrArg sem ((List.map_congr_left fun c hc => C13_describe c (h c hc)).trans (List.map_id cs))

/-- an unnamed feature takes the key it is bound to; an explicit name wins -/
theorem C13_feature_name (k : String) (d : FDecl) :
    (reflectFeat k d).name = match d.name with | some n => n | none => k := by
  cases h : d.name <;> simp [reflectFeat, h]

example :
    let c : CDescr := ⟨"A", true, ["B", "C"], [⟨"x", false, true, true, false, false, "EInt", none, some "3"⟩],
      [⟨"run", [⟨"self", true⟩, ⟨"a", true⟩, ⟨"b", false⟩]⟩]⟩
    promote (render c) = c := by decide +kernel

end Static
