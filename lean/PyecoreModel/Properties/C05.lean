import PyecoreModel.Lemmas.Notif
import PyecoreModel.Lemmas.SliceSpec
/-!
# C05 — Observers can mirror the model from notifications alone

`slotStep` (Model/Notif.lean) is what each slot mutator of `valuecontainer.py` does to its slot and which
notifications it emits; `applyNotif` is the observer of the statement.  The theorems are per slot: every change of a
slot — explicit or made implicitly on an opposite end with `update_opposite=False` — goes through one of these
mutators, so the per-(notifier, feature) stream of an object is a `slotRun`.  That no *other* code path writes a
slot is what the history-level oracle of the check looks for (it found `list.__delitem__` and the index form of
`EList.__setitem__`, both repaired).
-/
namespace Py
variable {α : Type} [DecidableEq α]

/-- **One mutator call**: if the observer's mirror agrees with the slot, then after the call — returned or raised —
applying the notifications it emitted (in order) to the mirror agrees with the slot again: equal for a single-valued
feature, same multiset for a list-like one, same set for a unique one. -/
theorem C05_step (k : SlotKind) (l m : List α) (op : SOp α) (h : Same k l m) :
    Same k (slotStep k l op).items (replay k.unique m (slotStep k l op).notifs) := by
  obtain e | ⟨_, hs⟩ := slotStep_spec k l op
  · rw [e]; exact h
  · exact hs m h

/-- A history of a slot, watched by an observer whose mirror `m0` agrees with the slot when it starts listening. -/
theorem slotRun_mirror (k : SlotKind) (ops : List (SOp α)) (l0 m0 : List α) (h0 : Same k l0 m0) :
    Same k (slotRun k ops l0).1 (replay k.unique m0 (slotRun k ops l0).2) := by
  refine List.foldlRecOn (motive := fun acc : List α × List (Notif α) => Same k acc.1 (replay k.unique m0 acc.2))
    ops _ h0 fun acc h op _ => ?_
  rw [replay_append]
  exact C05_step k acc.1 _ op h

/-- **Every history of a slot**: an observer that starts from the initial value and applies every notification ends
up with the contents the slot really has. -/
theorem C05_mirror (k : SlotKind) (ops : List (SOp α)) (l0 : List α) (h0 : Same k l0 l0) :
    Same k (slotRun k ops l0).1 (replay k.unique l0 (slotRun k ops l0).2) :=
  slotRun_mirror k ops l0 l0 h0

/-- a call that raises emits nothing -/
theorem C05_raise_silent (k : SlotKind) (l : List α) (op : SOp α) (h : (slotStep k l op).raised = true) :
    (slotStep k l op).notifs = [] ∧ (slotStep k l op).items = l := by
  obtain e | ⟨hr, _⟩ := slotStep_spec k l op
  · rw [e]; exact ⟨rfl, rfl⟩
  · rw [hr] at h; cases h

/-! ### Non-vacuity -/
example :
    let r := slotRun (α := Nat) .set [.append 1, .append 2, .append 1, .setItem 0 3, .pop (-1), .extend [5, 3, 6], .clear] []
    r.1 = [] ∧ replay true [] r.2 = [] ∧ r.2.length = 8 := by decide +kernel

example :
    let r := slotRun (α := Nat) .list [.append 1, .append 1, .setItem 0 3, .delItem 1, .extend [3, 4]] []
    r.1 = [3, 3, 4] ∧ replay false [] r.2 = [3, 3, 4] := by decide +kernel

/-- **Slices** (`l[a:b] = ys`, `del l[a:b]` on a list-like feature): what leaves is reported as REMOVE / REMOVE_MANY (nothing
when nothing leaves), what comes in as ADD / ADD_MANY (nothing when nothing comes in), and replaying that on the mirror
gives the slot's new contents. -/
theorem C05_slice {α : Type} [DecidableEq α] (l m : List α) (a b : Nat) (ys : List α) (h : Same .list l m) :
    Same .list (sliceStep l a b ys).items (replay false m (sliceStep l a b ys).notifs) := by
  simp only [sliceStep]
  generalize min a l.length = a'
  generalize hb : max a' (min b l.length) = b'
  have hab : a' ≤ b' := hb ▸ Nat.le_max_left ..
  refine same_replace h (rest := l.take a' ++ l.drop b') ?_ ?_
  · have e : l.take a' ++ ((l.drop a').take (b' - a') ++ l.drop b') = l := by
      rw [show l.drop b' = (l.drop a').drop (b' - a') by rw [List.drop_drop]; congr 1; omega,
        List.take_append_drop, List.take_append_drop]
    exact (List.perm_append_comm_assoc ..).trans (.of_eq e)
  · rw [List.append_assoc, List.append_assoc]
    exact List.perm_append_comm.append_left _

example : (sliceStep [1, 2, 3, 4] 1 3 ([] : List Nat)).items = [1, 4] ∧
    (sliceStep [1, 2, 3, 4] 1 3 ([] : List Nat)).notifs.map (·.kind) = [.removeMany] ∧
    (sliceStep [1, 2, 3, 4] 2 2 [9]).notifs.map (·.kind) = [.add] ∧ (sliceStep [1, 2] 5 9 ([] : List Nat)).notifs = [] := by decide +kernel

/-- **Extended slices** (`del l[a:b:k]`, `l[a:b:k] = ys`): the deletion pops the positions from the highest one down
(one REMOVE each); the assignment is refused, silently for the observers, unless as many elements come in as leave, and
otherwise reports what leaves and what comes in; in both cases the mirror ends with the slot's contents. -/
theorem C05_ext_slice_del {α : Type} [DecidableEq α] (l m : List α) (a b k : Nat) (h : Same .list l m) :
    Same .list (delExtStep l a b k).items (replay false m (delExtStep l a b k).notifs) := by
  simp only [delExtStep]
  rw [replay_removes]
  exact same_leave_many h nofun _ (((List.reverse_perm _).append_right _).trans (pickAt_perm 0 l))

/-- **The slice is Python's slice**: the positions `inExt a b k` that the two theorems around this one speak of are exactly the
positions `slice(a, b, k).indices(len(l))` visits (CPython's specification, `Py.slicePositions`), and what the deletion
leaves is `del l[a:b:k]` of that specification — for every list, start, stop and positive step. -/
theorem C05_ext_positions_spec (n a b k : Nat) (hk : 0 < k) (j : Nat) :
    j ∈ slicePositions n (some (a : Int)) (some (b : Int)) (k : Int) ↔ (j < n ∧ inExt a b k j = true) := by
  simp only [slicePositions_pos n a b k hk, List.mem_filter, List.mem_range', inExt, Bool.and_eq_true,
    decide_eq_true_eq, beq_iff_eq, Nat.lt_min]
  by_cases han : a ≤ n
  · rw [Nat.min_eq_left han]
    constructor
    · rintro ⟨⟨t, _, rfl⟩, hb, hn⟩
      exact ⟨hn, ⟨by omega, hb⟩, by simp⟩
    · rintro ⟨hn, ⟨ha, hb⟩, hm⟩
      refine ⟨⟨(j - a) / k, Nat.lt_of_le_of_lt (Nat.div_le_self ..) (by omega), ?_⟩, hb, hn⟩
      have := Nat.div_add_mod (j - a) k
      omega
  · rw [Nat.min_eq_right (by omega)]
    constructor
    · rintro ⟨⟨t, _, rfl⟩, _, hn⟩; omega
    · rintro ⟨hn, ⟨ha, _⟩, _⟩; omega

theorem C05_ext_del_spec {α : Type} (l : List α) (a b k : Nat) (hk : 0 < k) :
    (delExtStep l a b k).items = pyDelSlice l (some (a : Int)) (some (b : Int)) (k : Int) := by
  simp only [delExtStep, pickAt_rest_filter, pyDelSlice]
  congr 1
  apply List.filter_congr
  rintro ⟨x, j⟩ hx
  have hj : j < l.length := by simpa using (List.mem_zipIdx hx).2.1
  have hm := C05_ext_positions_spec l.length a b k hk j
  simp only [hj, true_and] at hm
  simp [hm]

example : slicePositions 7 (some 1) (some 6) 2 = [1, 3, 5] ∧ (delExtStep [10, 11, 12, 13, 14, 15, 16] 1 6 2).items = [10, 12, 14, 16] := by
  decide +kernel

theorem C05_ext_slice_set {α : Type} [DecidableEq α] (l m : List α) (a b k : Nat) (ys : List α) (h : Same .list l m) :
    Same .list (setExtStep l a b k ys).items (replay false m (setExtStep l a b k ys).notifs) := by
  unfold setExtStep
  split
  · exact h
  · next hlen => exact same_replace h (pickAt_perm 0 l) (replaceAt_perm 0 l ys (Decidable.not_not.1 hlen))

theorem C05_ext_slice_refused {α : Type} [DecidableEq α] (l : List α) (a b k : Nat) (ys : List α)
    (h : (setExtStep l a b k ys).raised = true) : (setExtStep l a b k ys).notifs = [] ∧ (setExtStep l a b k ys).items = l := by
  unfold setExtStep at h ⊢
  split
  · exact ⟨rfl, rfl⟩
  · next h' => rw [if_neg h'] at h; cases h

/-- **`l *= n`** is `clear()` or `extend(copies)`: an instance of `C05_mirror`. -/
theorem C05_imul {α : Type} [DecidableEq α] (l : List α) (n : Int) (h0 : Same .list l l) :
    Same .list (slotRun .list (imulOps l n) l).1 (replay false l (slotRun .list (imulOps l n) l).2) :=
  C05_mirror .list (imulOps l n) l h0

example : (delExtStep [1, 2, 3, 4, 5] 0 5 2).items = [2, 4] ∧
    (delExtStep [1, 2, 3, 4, 5] 0 5 2).notifs.map (·.old) = [[5], [3], [1]] ∧
    (setExtStep [1, 2, 3, 4] 0 4 2 [7, 8]).items = [7, 2, 8, 4] ∧
    (setExtStep [1, 2, 3, 4] 0 4 2 [7, 8]).notifs.map (·.kind) = [.removeMany, .addMany] ∧
    (setExtStep [1, 2, 3, 4] 0 4 2 [7]).raised = true ∧
    (slotRun (α := Nat) .list (imulOps [1, 2] 3) [1, 2]).1 = [1, 2, 1, 2, 1, 2] ∧
    (slotRun (α := Nat) .list (imulOps [1, 2] 0) [1, 2]).1 = [] := by decide +kernel

end Py
