import PyecoreModel.Lemmas.StoreNav
import PyecoreModel.Properties.C07
/-!
# C19 — The reflective views agree with the model they describe (object level)

`children` = `eContents`, `descendants`/`eAllContents` = `eAllContents()`, `eRoot` = `eRoot()`, `anc s k x` = the k-th
container of `x`.  `eGet`/`eSet` by name or by feature object are the same slot functions of the Store behind a name
lookup (the correspondence drives both spellings: `set`/`eset`).  The metamodel-level views (`eAllSuperTypes`,
`eAllStructuralFeatures`, …) are in `Properties/C12.lean`'s class model.
-/
namespace Store

/-- `eContents` is exactly the content of the containment references (the code iterates a *set* of references, so
only membership is claimed, not order). -/
theorem C19_contents (mm : MM) (s : St) (o x : Oid) :
    x ∈ children mm s o ↔ ∃ f, f < mm.nFeat ∧ (mm.feat f).cont = true ∧ x ∈ s.rs o f := by
  unfold children
  simp only [List.mem_flatMap, List.mem_range]
  constructor
  · rintro ⟨f, hf, hx⟩
    split at hx
    · rename_i hc; exact ⟨f, hf, hc, hx⟩
    · cases hx
  · rintro ⟨f, hf, hc, hx⟩
    exact ⟨f, hf, by simp [hc, hx]⟩

/-- … and those are exactly the objects that name `o` as their container. -/
theorem C19_contents_container (mm : MM) (s : St) (h : Inv mm s) (ht : Typed mm s) (o x : Oid) :
    x ∈ children mm s o ↔ ∃ f, s.cont x = some (o, f) := by
  rw [C19_contents]
  constructor
  · rintro ⟨f, _, hc, hx⟩; exact ⟨f, (h.own x o f).2 ⟨hc, hx⟩⟩
  · rintro ⟨f, hc⟩
    have := (h.own x o f).1 hc
    exact ⟨f, (ht.1 o f x this.2).1.2, this.1, this.2⟩

/-- one more level, taken at the far end of the chain -/
theorem anc_succ (s : St) (j : Nat) (y : Oid) : anc s (j + 1) y = (anc s j y).bind (anc s 1) := by
  induction j generalizing y with
  | zero => rfl
  | succ j ih =>
    cases hc : s.cont y with
    | none => simp [anc, hc]
    | some pf => simpa [anc, hc] using ih pf.1

theorem anc_one (s : St) (c o : Oid) : anc s 1 c = some o ↔ ∃ f, s.cont c = some (o, f) := by
  cases hc : s.cont c with
  | none => simp [anc, hc]
  | some pf => obtain ⟨p, f⟩ := pf; simp [anc, hc]

/-- `eAllContents()` yields exactly the objects strictly below `o` in the containment tree (within `n` levels):
`x` is yielded iff some k-th container of `x`, k ≥ 1, is `o`. -/
theorem C19_allcontents (mm : MM) (s : St) (h : Inv mm s) (ht : Typed mm s) (n : Nat) (o x : Oid) :
    x ∈ descendants mm s n o ↔ ∃ k, k < n ∧ anc s (k + 1) x = some o := by
  induction n generalizing o x with
  | zero => simp [descendants]
  | succ n ih =>
    simp only [descendants, List.mem_flatMap, List.mem_cons]
    constructor
    · rintro ⟨c, hc, hx⟩
      have hco := (anc_one s c o).2 ((C19_contents_container mm s h ht o c).1 hc)
      rcases hx with rfl | hx
      · exact ⟨0, Nat.succ_pos n, hco⟩
      · obtain ⟨k, hk, ha⟩ := (ih c x).1 hx
        exact ⟨k + 1, Nat.succ_lt_succ hk, by rw [anc_succ, ha]; exact hco⟩
    · rintro ⟨k, hk, ha⟩
      -- the last step of the chain goes from a child `c` of `o` up to `o`
      rw [anc_succ] at ha
      cases hxc : anc s k x with
      | none => rw [hxc] at ha; cases ha
      | some c =>
        rw [hxc] at ha
        refine ⟨c, (C19_contents_container mm s h ht o c).2 ((anc_one s c o).1 ha), ?_⟩
        cases k with
        | zero => simp [anc] at hxc; exact Or.inl hxc
        | succ k => exact Or.inr ((ih c x).2 ⟨k, Nat.lt_of_succ_lt_succ hk, hxc⟩)

/-- `eRoot()` is the end of the container chain: an ancestor of the object, without container
(when the chain ends within the fuel). -/
theorem C19_root (s : St) (n : Nat) (o : Oid) :
    ∃ k, k ≤ n ∧ anc s k o = some (eRoot s n o) := by
  induction n generalizing o with
  | zero => exact ⟨0, Nat.le_refl 0, rfl⟩
  | succ n ih =>
    simp only [eRoot]
    cases hc : s.cont o with
    | none => exact ⟨0, Nat.zero_le _, rfl⟩
    | some pf =>
      obtain ⟨p, f⟩ := pf
      obtain ⟨k, hk, ha⟩ := ih p
      exact ⟨k + 1, Nat.succ_le_succ hk, by simp [anc, hc, ha]⟩

/-- every reachable state meets the hypotheses -/
theorem C19_reachable (mm : MM) (hwf : mm.WF) (hwft : mm.WFT) (ops : List Op) (n : Nat) (o x : Oid) :
    x ∈ descendants mm (run mm ops) n o ↔ ∃ k, k < n ∧ anc (run mm ops) (k + 1) x = some o :=
  C19_allcontents mm _ (inv_run mm hwf ops) (typed_run mm hwf hwft ops) n o x

example :
    let s := run exMM7 [.new 0, .new 0, .new 0, .new 0, .add 0 0 (.obj 1), .add 1 0 (.obj 2), .add 0 0 (.obj 3)]
    children exMM7 s 0 = [1, 3] ∧ descendants exMM7 s 4 0 = [1, 2, 3] ∧ eRoot s 4 2 = 0 ∧ anc s 2 2 = some 0 := by
  decide

end Store
