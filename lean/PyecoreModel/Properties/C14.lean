import PyecoreModel.Lemmas.Paths
import PyecoreModel.Lemmas.HrefText
import PyecoreModel.Properties.C11
/-!
# C14 — References across resources reach the right object after a reload  (**partial**)

An href is `relpath(file of target, dirname(file of referrer)) # fragment`; reading it applies `join(dirname(referrer),
·)` and normalises.  Proved for all inputs: the path half (`C14_path`), composed with C11 for the fragment half
(`C14_href`), and the transparency of a *resolved* proxy (`C14_transparent`).  The statement's remaining demand — that an
*unresolved* proxy already hashes like its target — is refuted by construction of `EProxy.__hash__`
(`C14_counterexample_unresolved_hash`, recorded finding F-C14-1); the order of a many-valued XMI reference mixing
local and cross-resource targets is finding F-C14-2.  On-demand loading, the resource-set key discipline and the JSON
path are decided by the check's oracle.
-/
namespace Paths

/-- **Every directory layout**: the relative path written from `me` to `other`, joined to `me`'s directory and
normalised, is `other` — whatever the depths, the common prefix, equal file names in different directories. -/
theorem C14_path (me other : Path) (hme : Clean me) (ho : Clean other) (hne : other ≠ []) :
    hrefRoundTrip me other = other := by
  unfold hrefRoundTrip normalize join relpath
  generalize hd : dirname me = d
  have hdc : Clean d := by
    subst hd; exact fun s hs => hme s ((List.dropLast_sublist me).subset hs)
  have htk := take_commonLen d other
  generalize commonLen d other = c at htk
  -- d = pre ++ dd and other = pre ++ od with the common prefix `pre`: the walk climbs out of `dd`, then descends `od`
  have hd' : d.reverse = (d.drop c).reverse ++ (d.take c).reverse := by
    rw [← List.reverse_append, List.take_append_drop]
  have hlen : d.length - c = (d.drop c).reverse.length := by simp
  simp only [List.foldl_append, foldl_relpath_dot]
  rw [foldl_clean [] d hdc, List.append_nil, hd', hlen, foldl_dotdot,
    foldl_clean _ _ (fun s hs => ho s (List.mem_of_mem_drop hs)), List.reverse_append,
    List.reverse_reverse, List.reverse_reverse, htk, List.take_append_drop]

/-- **href = (file, fragment) resolves to the object**: the file by `C14_path`, the fragment by C11. -/
theorem C14_href (me other : Path) (hme : Clean me) (ho : Clean other) (hne : other ≠ [])
    (mm : Store.MM) (s : Store.St) (h : Store.Inv mm s) (n : Nat) (o : Store.Oid) (r : Store.Rid)
    (hroot : s.cont (Store.eRoot s n o) = none) (he : s.eres (Store.eRoot s n o) = some r) :
    hrefRoundTrip me other = other ∧ Store.resolve mm s r (Store.frag mm s n o) = some o :=
  ⟨C14_path me other hme ho hne, Store.C11_resolve_frag mm s h n o r hroot he⟩

/-- `EProxy`: equality forces resolution and delegates; the hash is the target's once resolved, the proxy's own
identity before. -/
structure Proxy where
  ident : Nat            -- object.__hash__(proxy)
  targetHash : Nat
  resolved : Bool

def Proxy.hash (p : Proxy) : Nat := if p.resolved then p.targetHash else p.ident
def Proxy.eqTarget (_ : Proxy) : Bool := true      -- `__eq__`: force_resolve(); self._wrapped == other

/-- a resolved proxy compares equal to and hashes like its target -/
theorem C14_transparent (p : Proxy) (h : p.resolved = true) : p.hash = p.targetHash ∧ p.eqTarget = true := by
  simp [Proxy.hash, h, Proxy.eqTarget]

/-- … an unresolved one does not hash like it (F-C14-1): a collection that hashed it before resolution cannot find the
target afterwards -/
theorem C14_counterexample_unresolved_hash :
    ∃ p : Proxy, p.resolved = false ∧ p.hash ≠ p.targetHash := ⟨⟨1, 2, false⟩, rfl, by decide⟩

example : hrefRoundTrip ["t", "d1", "x", "a.xmi"] ["t", "d2", "b.xmi"] = ["t", "d2", "b.xmi"] := by decide +kernel
example : relpath ["t", "d2", "b.xmi"] ["t", "d1", "x"] = ["..", "..", "d2", "b.xmi"] := by decide +kernel
example : hrefRoundTrip ["t", "d1", "m.xmi"] ["t", "d2", "m.xmi"] = ["t", "d2", "m.xmi"] := by decide +kernel

end Paths

namespace HrefText

/-- **The text of an href**: reading drops an announced type (`prefix:Type uri#fragment` is `uri#fragment`) … -/
theorem C14_href_typed (t u : List Char) (ht : ∀ x ∈ t, x ≠ ' ') (htw : typeWord t = true) (hu : u ≠ [])
    (h1 : ∀ c, u.head? = some c → isBlank c = false) (h2 : ∀ c, u.getLast? = some c → isBlank c = false) :
    normalize (t ++ ' ' :: u) = u := by
  have hp : ∀ x ∈ t, decide (x ≠ ' ') = true := fun x hx => by simpa using ht x hx
  unfold normalize head
  rw [List.dropWhile_append_of_pos hp, List.takeWhile_append_of_pos hp, List.dropWhile_cons_of_neg (by simp),
    List.takeWhile_cons_of_neg (by simp), List.append_nil]
  simp [htw, strip_id u h1 h2, hu]

/-- … and nothing else: a path with blanks in it (`my dir/b.xmi#//@kids.0`, `a b.xmi#/`, `../x y/z.json#id`) is read as
written — the word in front of its first blank has a `/` or a `#` in it, or no `:` -/
theorem C14_href_blanks (s : List Char) (h : typeWord (head s) = false) : normalize s = s := by
  unfold normalize
  split
  · rfl
  · simp [h]

example : normalize "ecore:EClass http://x/y#//A".toList = "http://x/y#//A".toList := by decide +kernel
example : normalize "my dir/b.xmi#//@kids.0".toList = "my dir/b.xmi#//@kids.0".toList := by decide +kernel
example : normalize "a b.xmi#/".toList = "a b.xmi#/".toList := by decide +kernel
example : typeWord (head "../my models/x y.json#id7".toList) = false := by decide +kernel

end HrefText

