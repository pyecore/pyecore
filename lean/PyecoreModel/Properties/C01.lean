import PyecoreModel.Lemmas.StoreStep
import PyecoreModel.Lemmas.SetOps
/-!
# C01 — Opposite references stay symmetric

Model: `Store.step` (`Model/Store.lean`), the net effect of every public mutation of `valuecontainer.py` /
`EStructuralFeature.__set__/__delete__` / `EObject.delete` / `Resource.append`, for an arbitrary well-formed
metamodel `mm` (`MM.WF`: opposites mutual and distinct, ends of bidirectional and containment references unique,
the opposite of a containment single-valued).  All sixteen shapes of the quantifier are values of `mm`; nothing
is specialised per shape.  Only the property statements and their witnesses live here.
-/
namespace Store

/-- **One call**: whatever the operation (assign, unset, del, append/add, extend/update, insert, remove, pop, clear,
item assignment/deletion, `+=`, whole-collection assignment, `delete()`, resource append/remove), whatever its
operands (wrong types, absent elements, out-of-range indices included), and whether it returns or raises —
`(step …).1` is the state the caller finds — symmetry holds afterwards. -/
theorem C01_step (mm : MM) (hwf : mm.WF) (s : St) (h : Inv mm s) (op : Op) : Sym mm (step mm s op).1 :=
  (inv_step mm hwf s h op).1

/-- **Every history**: after any finite sequence of public mutations from the empty model,
y is a value of x.f exactly when x is a value of y.g, for every pair of opposites. -/
theorem C01_reachable (mm : MM) (hwf : mm.WF) (ops : List Op) :
    ∀ f g, (mm.feat f).opp = some g → ∀ x y, y ∈ (run mm ops).rs x f ↔ x ∈ (run mm ops).rs y g :=
  (inv_run mm hwf ops).1

/-- … and **every history that also uses the other mutators of a set** (`discard`, `difference_update` / `-=`,
`intersection_update` / `&=`, `symmetric_difference_update` / `^=`, and `l[a:b] = vs`, `l *= n` of a list-like
feature; `Model/SetOps.lean`): it ends where a history of public calls ends (`runAny_flat`). -/
theorem C01_reachable_setops (mm : MM) (hwf : mm.WF) (w : List (Op ⊕ SetOp)) :
    ∀ f g, (mm.feat f).opp = some g → ∀ x y, y ∈ (runAny mm w).rs x f ↔ x ∈ (runAny mm w).rs y g := by
  obtain ⟨ops, h⟩ := runAny_flat mm w
  rw [h]; exact C01_reachable mm hwf ops

/-- **Re-pointing releases the previous partner** (single-valued `f`, any multiplicity of the opposite, containment
or not): after `x.f = y`, `x.f` is exactly `y`, and no other object `y0` still holds `x` in the opposite. -/
theorem C01_release (mm : MM) (hwf : mm.WF) (s : St) (h : Inv mm s) (x f y g)
    (hm : (mm.feat f).many = false) (hopp : (mm.feat f).opp = some g) :
    (link mm s x f y 0).rs x f = [y] ∧ ∀ y0, y0 ≠ y → x ∉ (link mm s x f y 0).rs y0 g := by
  have hi := link_inv mm hwf s h x f y 0
  have hgf := (hwf.opp_mutual f g hopp).1
  exact hi.partner hgf hm ((hi.sym f g hopp x y).1 (link_mem mm hwf s x f y 0))

/-- … and the same when the value arrives through the many-valued side: after `x.f.append(y)` with a single-valued
opposite, `y.g` is exactly `x` and no other `x0` still holds `y`. -/
theorem C01_steal (mm : MM) (hwf : mm.WF) (s : St) (h : Inv mm s) (x f y g pos)
    (hopp : (mm.feat f).opp = some g) (hm : (mm.feat g).many = false) :
    (link mm s x f y pos).rs y g = [x] ∧ ∀ x0, x0 ≠ x → y ∉ (link mm s x f y pos).rs x0 f :=
  (link_inv mm hwf s h x f y pos).partner hopp hm (link_mem mm hwf s x f y pos)

/-! ### Non-vacuity: a well-formed metamodel and a history with re-pointing and stealing (kernel-evaluated) -/

/-- f0 : C0 → C1 single, f1 : C1 → C0 single, opposites (1-1). -/
def exMM : MM :=
  { feat := fun f => if f = 0 then { owner := 0, tcls := 1, opp := some 1 }
                     else if f = 1 then { owner := 1, tcls := 0, opp := some 0 } else { isRef := false }
    nFeat := 2, sub := fun c t => c == t, abstr := fun _ => false, nCls := 2 }

theorem exMM_wf : exMM.WF := by
  refine ⟨?_, ?_, ?_, ?_, ?_⟩ <;> intro f <;> rcases f with _ | _ | f <;> simp [exMM]

/-- a0.b = b0 ; a1.b = b0 (steals b0 from a0) ; a1.b = b1 (re-points, releasing b0) -/
example :
    let s := run exMM [.new 0, .new 0, .new 1, .new 1, .set 0 0 (.obj 2), .set 1 0 (.obj 2), .set 1 0 (.obj 3)]
    s.rs 0 0 = [] ∧ s.rs 1 0 = [3] ∧ s.rs 2 1 = [] ∧ s.rs 3 1 = [1] := by decide

end Store
