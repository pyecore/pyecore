import PyecoreModel.Lemmas.Classes
/-!
# C12 — Dynamic metaclasses and their instances follow metamodel edits  (**partial: CPython's class machinery is a parameter**)

Model: `Model/Classes.lean`.  Proved for every admissible edit sequence (add/remove feature or operation, add/remove
supertype at the front or back, instance creation, feature access, in any interleaving):
the Python class dictionaries and `__bases__` mirror the EClasses (`Sync`), no instance keeps a holder for a name its
class lost (`NoStale`); hence attribute lookup finds exactly the own and inherited features and operations, never a raw
holder, and `isinstance` holds exactly for the class and its transitive supertypes — diamonds and every supertype
order included, because lookup and `isinstance` only use reachability through `__bases__`.
**Modelled, not verified**: that CPython's `type.__setattr__/__delattr__`, `__bases__` assignment and MRO computation
(C3, and pyecore's two fall-backs when C3 fails) realise this reachability.  The check compares, after every edit of
generated sequences, `getattr` of every name ever declared on every instance and the `isinstance` /
`EcoreUtils.isinstance` matrix on the real classes with the model.
-/
namespace Cls

theorem inv_init : Inv ({} : W) :=
  inv_iff.2 ⟨fun _ _ => by simp, rfl, fun _ _ h => by cases h⟩

/-- **Every admissible edit keeps the Python side in step and leaves no stale holder.** -/
theorem C12_inv_edit (w : W) (h : Inv w) (e : Edit) (ha : Admissible w e) : Inv (edit w e) := by
  obtain ⟨hk, hb, hn⟩ := inv_iff.1 h
  have hk' := fun c => (hk c).symm
  cases e with
  | newClass =>
    exact inv_iff.2 ⟨hk, hb, fun i m hi => allFeatures_mono (hn i m hi) (Nat.le_succ _) (fun _ _ => id) (fun _ _ => id)⟩
  | addFeat c n =>
    refine inv_iff.2 ⟨dictOK_update hk c ((hk c).add ha), hb, fun i m hi => ?_⟩
    exact allFeatures_mono (hn i m hi) (Nat.le_refl _) (fun _ _ => mem_update_of_mem fun _ => List.mem_append_left _)
      (fun _ _ => id)
  | addOp c n => exact inv_iff.2 ⟨fun c' => (dictOK_update hk' c ((hk' c).add ha) c').symm, hb, hn⟩
  | removeFeat c n => exact inv_purge (dictOK_update hk c ((hk c).remove ha)) hb
  | removeOp c n => exact inv_iff.2 ⟨fun c' => (dictOK_update hk' c ((hk' c).remove ha) c').symm, hb, hn⟩
  | addSuper c s front =>
    refine inv_iff.2 ⟨hk, congrArg (fun g c' => if c' = c then _ else g c') hb, fun i m hi => ?_⟩
    refine allFeatures_mono (hn i m hi) (Nat.le_refl _) (fun _ _ => id) (fun _ _ => mem_update_of_mem fun d hd => ?_)
    split
    · exact List.mem_cons_of_mem _ hd
    · exact List.mem_append_left _ hd
  | removeSuper c s => exact inv_purge hk (congrArg (fun g c' => if c' = c then _ else g c') hb)
  | newInst c =>
    exact inv_iff.2 ⟨hk, hb,
      hn.edit_inst rfl w.nInst (fun _ h => ⟨if_neg h, if_neg h⟩) ⟨if_pos rfl, if_pos rfl⟩ (fun _ h => nomatch h)⟩
  | touch i n =>
    simp only [edit]
    split
    · rename_i hc
      refine inv_iff.2 ⟨hk, hb, hn.edit_inst rfl i (fun _ h => ⟨rfl, if_neg h⟩) ⟨rfl, if_pos rfl⟩ fun m hm => ?_⟩
      rcases List.mem_append.1 hm with hm | hm
      · exact hn i m hm
      · cases List.mem_singleton.1 hm
        exact List.contains_iff_mem.1 (Bool.and_eq_true_iff.1 hc).1
    · exact h

/-- a sequence of edits each admissible where it is applied -/
def AdmissibleSeq : W → List Edit → Prop
  | _, [] => True
  | w, e :: t => Admissible w e ∧ AdmissibleSeq (edit w e) t

/-- … hence every state reached by admissible edits, from any state satisfying the invariant. -/
theorem C12_inv_run (w : W) (h : Inv w) (es : List Edit) (ha : AdmissibleSeq w es) : Inv (es.foldl edit w) := by
  induction es generalizing w with
  | nil => exact h
  | cons e t ih => exact ih _ (C12_inv_edit w h e ha.1) ha.2

/-- **Features**: the class side of attribute lookup finds a name exactly when it is an own or inherited feature or
operation. -/
theorem C12_features (w : W) (h : Sync w) (c : Cid) (n : Name) :
    classLookup w c n = true ↔ n ∈ allFeatures w c ∨ n ∈ allOps w c := by
  rw [classLookup_iff, mem_allFeatures, mem_allOps, ← exists_or, h.2]
  simp only [h.1, and_or_left, allSupers]

/-- **Nothing that was removed**: `getattr` never hands out a raw holder, and finds a descriptor exactly for the
declared names. -/
theorem C12_getattr (w : W) (h : Inv w) (i : Nat) (n : Name) :
    getattr w i n ≠ .rawHolder ∧
    (getattr w i n = .descriptor ↔ n ∈ allFeatures w (w.icls i) ∨ n ∈ allOps w (w.icls i)) := by
  have hl := C12_features w h.1 (w.icls i) n
  refine ⟨fun e => ?_, getattr_eq_descriptor.trans hl⟩
  obtain ⟨hc, hi⟩ := getattr_eq_rawHolder.1 e
  exact Bool.false_ne_true (hc ▸ hl.2 (.inl (h.2.2 i n hi)))

/-- **isinstance** holds exactly for the class and its transitive supertypes. -/
theorem C12_isinstance (w : W) (h : Sync w) (i : Nat) (c : Cid) :
    isInstance w i c = true ↔ c = w.icls i ∨ c ∈ allSupers w (w.icls i) := by
  simp only [isInstance, Bool.or_eq_true, beq_iff_eq, List.contains_iff_mem, allSupers, h.2, eq_comm (a := c)]

/-! ### Non-vacuity, and what the purge is for -/

/-- diamond K3 < K1, K2 < K0 (supertypes declared in both orders), a feature on the apex, an instance that touched it,
then the feature removed: no descriptor, no raw holder -/
example :
    let w := run [.newClass, .newClass, .newClass, .newClass, .addSuper 1 0 false, .addSuper 2 0 false,
                  .addSuper 3 2 false, .addSuper 3 1 true, .addFeat 0 7, .newInst 3, .touch 0 7]
    getattr w 0 7 = .descriptor ∧ isInstance w 0 0 = true ∧ isInstance w 0 1 = true ∧
    getattr (edit w (.removeFeat 0 7)) 0 7 = .nothing ∧
    getattr (edit w (.removeSuper 3 1)) 0 7 = .descriptor ∧
    getattr (edit (edit w (.removeSuper 3 1)) (.removeSuper 3 2)) 0 7 = .nothing := by decide +kernel

/-- without dropping stale holders (the behaviour before the repair) the instance would hand out the raw holder -/
theorem C12_counterexample_no_purge :
    let w := run [.newClass, .addFeat 0 7, .newInst 0, .touch 0 7]
    let w' : W := { w with feats := fun _ => [], pdict := fun _ => [] }      -- removal without `purge`
    getattr w' 0 7 = .rawHolder := by decide

end Cls
