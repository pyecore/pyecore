import PyecoreModel.Lemmas.Operations
import PyecoreModel.Properties.C12
/-!
# C20 — declared operations are callable with their declared signature

Model: `Model/Operations.lean` (the signature `to_code` writes, Python's positional binding rule, `_promote`'s reflection
rule) and `Model/Classes.lean` (where the generated methods live, shared with C12).  `pyKeywords` is regenerated from
the interpreter on every run.
-/
namespace Ops

/-- no keyword with `_` appended is a keyword again, because none ends in `_` (one pass over the regenerated table) -/
theorem kw_underscore_not_kw : pyKeywords.all (fun k => !pyKeywords.contains (k ++ "_")) = true :=
  all_push_not_contains pyKeywords '_' (by decide +kernel)

/-- the method name is never a Python keyword, and is the declared name unless that is a keyword -/
theorem C20_normalized (n : String) :
    normalizedName n ∉ pyKeywords ∧ (n ∉ pyKeywords → normalizedName n = n) ∧
    (n ∈ pyKeywords → normalizedName n = n ++ "_") := by
  unfold normalizedName
  by_cases h : n ∈ pyKeywords
  · rw [if_pos (List.contains_iff_mem.2 h)]
    exact ⟨by simpa using List.all_eq_true.1 kw_underscore_not_kw n h, fun h' => absurd h h', fun _ => rfl⟩
  · rw [if_neg (mt List.contains_iff_mem.1 h)]
    exact ⟨h, fun _ => rfl, fun h' => absurd h' h⟩

/-- the parameters seen on an instance are the declared ones in order, defaulted exactly when not required -/
theorem C20_signature_params (op : Op) (h : ∀ p ∈ op.params, p.name ≠ "self") :
    bound (sigOf op) = op.params.map fun p => ⟨p.name, !p.required⟩ := by
  rw [sigOf_noself op h]; rfl

/-- **Declared signature.**  For required parameters followed by optional ones (none called `self`): the generated `def`
    is one Python accepts as far as parameter order goes, and a call on an instance with `k` positional arguments
    reaches the body — which raises NotImplementedError — exactly when `#required ≤ k ≤ #required + #optional`;
    any other count is a TypeError. -/
theorem C20_signature (name : String) (req opt : List Param)
    (hr : ∀ p ∈ req, p.required = true) (ho : ∀ p ∈ opt, p.required = false)
    (hs : ∀ p ∈ req ++ opt, p.name ≠ "self") (k : Nat) :
    let op : Op := ⟨name, req ++ opt⟩
    noReqAfterDflt (sigOf op) = true ∧
    (callStub op k = .notImplemented ↔ req.length ≤ k ∧ k ≤ req.length + opt.length) ∧
    (callStub op k = .typeError ↔ ¬ (req.length ≤ k ∧ k ≤ req.length + opt.length)) := by
  intro op
  have hra : ∀ p ∈ req.map paramCode, p.dflt = false := dflt_map_paramCode hr
  have hoa : ∀ p ∈ opt.map paramCode, p.dflt = true := dflt_map_paramCode ho
  have hacc : callStub op k = .notImplemented ↔ req.length ≤ k ∧ k ≤ req.length + opt.length := by
    rw [callStub_eq_notImplemented, C20_signature_params op hs]
    show accepts ((req ++ opt).map paramCode) k = true ↔ _
    rw [List.map_append, accepts_append hra hoa, List.length_map, List.length_map]
  refine ⟨?_, hacc, by rw [← hacc]; cases callStub op k <;> simp⟩
  rw [sigOf_noself op hs, List.map_append]
  exact noReqAfterDflt_append (a := _ :: _) (List.forall_mem_cons.2 ⟨rfl, hra⟩) hoa

/-- **Reflection.**  A plain function of a static class body whose key does not start with `__` and whose first
    parameter is `self` is reflected as an operation of the function's name whose parameters are the function's, in
    order, required exactly for those without default — so that the signature generated back from the operation is the
    function's own. -/
theorem C20_reflect (e : Entry) (rest : List String) (hk : e.kind = .function) (hd : e.key.startsWith "__" = false)
    (ha : e.args = "self" :: rest) (hn : e.ndefaults ≤ rest.length) :
    ∃ op, promote e = some op ∧ op.name = e.fname ∧ op.params.map (·.name) = e.args ∧
      (∀ i (h : i < op.params.length), (op.params[i]).required = decide (i < e.args.length - e.ndefaults)) ∧
      sigOf op = entrySig e := by
  refine ⟨⟨e.fname, reflParams e.args e.ndefaults⟩, ?_, rfl, reflParams_names _ _, ?_, ?_⟩
  · rw [promote_eq, if_pos ⟨hk, hd, by rw [ha]; rfl⟩]
  · intro i h; simp [reflParams]
  · rw [entrySig_eq, ha, reflParams_cons, decide_eq_true hn]
    exact sigOf_self _ _

/-- … and nothing else is: static and class methods, keys starting with `__`, functions without `self` first. -/
theorem C20_reflect_skips (e : Entry)
    (h : e.kind ≠ .function ∨ e.key.startsWith "__" = true ∨ e.args.head? ≠ some "self") : promote e = none := by
  rw [promote_eq, if_neg]
  rintro ⟨hk, hd, ha⟩
  rcases h with h | h | h
  · exact h hk
  · exact Bool.false_ne_true (hd ▸ h)
  · exact h ha

end Ops

namespace Cls

/-- **Method present.**  In every state reached by admissible edits, a declared operation of the class of an instance
    or of one of its transitive supertypes is found as a method (class-level entry) on the instance … -/
theorem C20_method_present (w : W) (h : Inv w) (i : Nat) (n : Name) (hn : n ∈ allOps w (w.icls i)) :
    getattr w i n = .descriptor := ((C12_getattr w h i n).2).mpr (Or.inr hn)

/-- … and a name that is neither an operation nor a feature of them is not found at all: removal removes the method. -/
theorem C20_method_absent (w : W) (h : Inv w) (i : Nat) (n : Name)
    (hf : n ∉ allFeatures w (w.icls i)) (ho : n ∉ allOps w (w.icls i)) : getattr w i n = .nothing := by
  obtain ⟨h1, h2⟩ := C12_getattr w h i n
  cases hg : getattr w i n with
  | descriptor => exact absurd (h2.mp hg) (not_or.2 ⟨hf, ho⟩)
  | rawHolder => exact absurd hg h1
  | nothing => rfl

/-- adding an operation to `c` makes it an operation of `c` and of every class that has `c` among its supertypes -/
theorem C20_add (w : W) (c d : Cid) (n : Name) (hd : d = c ∨ c ∈ allSupers w d) :
    n ∈ allOps (edit w (.addOp c n)) d :=
  mem_allOps.2 ⟨c, hd.imp_left Eq.symm, by simp [edit]⟩

/-- removing it from `c` leaves no declaration of that name on `c` -/
theorem C20_remove (w : W) (c : Cid) (n : Name) : n ∉ (edit w (.removeOp c n)).ops c := by
  simp [edit]

example :
    let w := run [.newClass, .newClass, .addSuper 1 0 false, .newInst 1, .addOp 0 5]
    getattr w 0 5 = .descriptor ∧ getattr (edit w (.removeOp 0 5)) 0 5 = .nothing := by decide +kernel

end Cls

example : Ops.callStub ⟨"f", [⟨"a", true⟩, ⟨"b", false⟩]⟩ 0 = .typeError ∧
    Ops.callStub ⟨"f", [⟨"a", true⟩, ⟨"b", false⟩]⟩ 1 = .notImplemented ∧
    Ops.callStub ⟨"f", [⟨"a", true⟩, ⟨"b", false⟩]⟩ 3 = .typeError := by decide +kernel
example : Ops.normalizedName "class" = "class_" ∧ Ops.normalizedName "klass" = "klass" := by decide +kernel
