import PyecoreModel.Lemmas.StoreNav
import PyecoreModel.Lemmas.FragmentText
import PyecoreModel.Model.NamedTree
/-!
# C11 — An object's URI fragment always resolves back to that object

`frag` mirrors `EObject.eURIFragment`, `resolve` mirrors `Resource.resolve` → `extract_rootnum_and_frag` →
`_navigate_from` (positional form).  The index written into a fragment is the position the collection *reports*
(`index()`); that it is the iteration position is C04 (`C04_index_is_position`), and in the Store the slot *is*
the iteration order.  The string layer (rendering a path as `/2/@kids.0/@leaf` and reading it back) is
`C11_fragment_text`, over the document model's paths (feature names and indices; `Lemmas/FragmentText.lean`); that the
real `eURIFragment()` text is the rendering of the model's path is the correspondence: the check renders the model's
`Path`, compares it with the real text, and feeds the real text to the real `resolve`.
-/
namespace Store

/-- **resolve ∘ eURIFragment = id** for every object under a root of the resource, at any depth, whatever history
led to the state (`Inv` is an invariant of every history: `inv_run`).  `hroot`: the container chain ends within the
fuel; `he`: its top is a root of `r`. -/
theorem C11_resolve_frag (mm : MM) (s : St) (h : Inv mm s) (n : Nat) (o : Oid) (r : Rid)
    (hroot : s.cont (eRoot s n o) = none) (he : s.eres (eRoot s n o) = some r) :
    resolve mm s r (frag mm s n o) = some o := by
  unfold resolve frag
  simp only
  rw [root_lookup s h.res _ r he]
  exact navigate_fragSegs mm s h n o hroot

/-- **Distinct objects of a resource have distinct fragments** (a left inverse makes `frag` injective). -/
theorem C11_injective (mm : MM) (s : St) (h : Inv mm s) (n : Nat) (o1 o2 : Oid) (r : Rid)
    (h1 : s.cont (eRoot s n o1) = none) (e1 : s.eres (eRoot s n o1) = some r)
    (h2 : s.cont (eRoot s n o2) = none) (e2 : s.eres (eRoot s n o2) = some r)
    (heq : frag mm s n o1 = frag mm s n o2) : o1 = o2 := by
  have a := C11_resolve_frag mm s h n o1 r h1 e1
  have b := C11_resolve_frag mm s h n o2 r h2 e2
  rw [heq, b] at a; exact (Option.some.inj a).symm

/-- … after every history: the hypotheses on the state are met by every reachable state. -/
theorem C11_reachable (mm : MM) (hwf : mm.WF) (ops : List Op) (n : Nat) (o : Oid) (r : Rid)
    (hroot : (run mm ops).cont (eRoot (run mm ops) n o) = none)
    (he : (run mm ops).eres (eRoot (run mm ops) n o) = some r) :
    resolve mm (run mm ops) r (frag mm (run mm ops) n o) = some o :=
  C11_resolve_frag mm (run mm ops) (inv_run mm hwf ops) n o r hroot he

/-! ### Non-vacuity -/

/-- f0 : many containment, f1 : single containment -/
def exMM11 : MM :=
  { feat := fun f => if f = 0 then { many := true, cont := true } else { cont := true }
    nFeat := 2, sub := fun c t => c == t, abstr := fun _ => false, nCls := 1 }

/-- two roots; o2, o3 under o1.f0 (o3 inserted in front, then o2 popped and re-added: positions move); o4 = o3.f1 -/
example :
    let s := run exMM11 [.new 0, .new 0, .new 0, .new 0, .new 0, .res, .rappend 0 0, .rappend 0 1,
                         .add 1 0 (.obj 2), .insert 1 0 0 (.obj 3), .pop 1 0 (-1), .add 1 0 (.obj 2), .set 3 1 (.obj 4)]
    frag exMM11 s 5 4 = ⟨some 1, [(0, some 0), (1, none)]⟩ ∧ frag exMM11 s 5 2 = ⟨some 1, [(0, some 1)]⟩ ∧
    resolve exMM11 s 0 (frag exMM11 s 5 4) = some 4 ∧ resolve exMM11 s 0 (frag exMM11 s 5 2) = some 2 := by decide +kernel

end Store

namespace XDoc

/-- **The text of a positional fragment reads back as the path it was written for** (`eURIFragment` /
`extract_rootnum_and_frag` + `_navigate_from`): every root number, any depth, single-valued steps (`@f`) and indexed ones
(`@f.3`), for feature names without `/` and `.`; in a single-root resource the root is `/`. -/
theorem C11_fragment_text (single : Bool) (p : Path) (hn : ∀ s ∈ p.segs, NameOK s.1) (hroot : single = true → p.root = 0) :
    parsePath (renderPath single p) = some p :=
  parse_render single p hn hroot

example : renderPath false ⟨2, [("kids".toList, some 0), ("leaf".toList, none)]⟩ = "/2/@kids.0/@leaf".toList := by decide +kernel

end XDoc

namespace NamedTree

/-- **Name-based fragments of metamodel elements**: in a tree of named elements where no two elements contained in the
same element bear the same name, the fragment of every element (the names on the way down from the root package)
resolves to that very element … -/
theorem C11_named_resolve (t : NT) (hu : t.Uniq) (p : List Nat) (ns : List String) (h : t.frag p = some ns) :
    t.resolve ns = some p := by
  induction p generalizing t ns with
  | nil => cases Option.some.inj h; rfl
  | cons i p ih =>
    obtain ⟨n, ks, hnd, hks⟩ := hu
    simp only [NT.frag, NT.kids] at h
    split at h
    · next c hc =>
      obtain ⟨ns', hf, rfl⟩ := Option.map_eq_some_iff.1 h
      obtain ⟨hi, rfl⟩ := List.getElem?_eq_some_iff.1 hc
      -- names are unique among the children: the first child of that name is the `i`th
      have hidx : (ks.map NT.name).idxOf ks[i].name = i := by
        have := hnd.idxOf_getElem i (by rwa [List.length_map])
        rwa [List.getElem_map] at this
      simp only [NT.resolve, NT.kids, hidx, hc, ih _ (hks _ (List.getElem_mem hi)) _ hf, Option.map_some]
    · cases h

/-- … and two different elements never have the same fragment. -/
theorem C11_named_injective (t : NT) (hu : t.Uniq) (p q : List Nat) (ns : List String)
    (hp : t.frag p = some ns) (hq : t.frag q = some ns) : p = q :=
  Option.some.inj ((C11_named_resolve t hu p ns hp).symm.trans (C11_named_resolve t hu q ns hq))

/-- (what a fragment resolves to bears that fragment — whatever the names: with two siblings of one name the *first* one
answers for both, which is how the uniqueness hypothesis above cannot be dropped) -/
theorem C11_named_sound (t : NT) (ns : List String) (p : List Nat) (h : t.resolve ns = some p) : t.frag p = some ns := by
  induction ns generalizing t p with
  | nil => cases Option.some.inj h; rfl
  | cons m ns ih =>
    simp only [NT.resolve] at h
    split at h
    · next c hc =>
      obtain ⟨p', hr, rfl⟩ := Option.map_eq_some_iff.1 h
      obtain ⟨hlt, rfl⟩ := List.getElem?_eq_some_iff.1 hc
      -- the position was found by name, so the child there bears the name
      have hname := List.getElem_idxOf (xs := t.kids.map NT.name) (x := m) (by rwa [List.length_map])
      rw [List.getElem_map] at hname
      simp only [NT.frag, hc, ih _ _ hr, Option.map_some, hname]
    · cases h

def exPkg : NT := .node "p" [.node "org.ex" [.node "B" [.node "a.b" []]], .node "A" [.node "x" [], .node "op" [.node "arg" []]]]

example : exPkg.frag [1, 1, 0] = some ["A", "op", "arg"] ∧ exPkg.resolve ["A", "op", "arg"] = some [1, 1, 0] ∧
    exPkg.resolve ["org.ex", "B", "a.b"] = some [0, 0, 0] := by decide +kernel
/-- without uniqueness: an attribute and an operation of one class named alike share a fragment, the first one answers -/
example : (NT.node "p" [.node "B" [.node "op" [], .node "op" []]]).frag [0, 1] = some ["B", "op"] ∧
    (NT.node "p" [.node "B" [.node "op" [], .node "op" []]]).resolve ["B", "op"] = some [0, 0] := by decide +kernel

end NamedTree
