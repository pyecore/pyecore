import PyecoreModel.Lemmas.StoreDelete
/-!
# C07 — delete() leaves no dangling reference and touches nothing else

`Store.delete mm s x recursive` is the net effect of `EObject.delete`: the objects of the containment subtree (when
`recursive`), then `x`, each lose every link they take part in (`deleteOne` = `unlinkRaw` over `linksOf`).
In the code the incoming links are only known through `_inverse_rels` (references without opposite) and through the
opposite ends; the model *scans* for them.  That the bookkeeping finds exactly what a scan finds is what the
correspondence check of this property establishes on every run — a history after which the two differ is a
violation of this property with that history as the replay.

Hypotheses: `Inv` (C01/C02 invariants), `Typed` (C03), and `Nd` — no reference slot holds a value twice.  `Nd` is an
invariant of the admissible histories (a list-like reference is never offered a value it already holds); the
unchanged code does *not* satisfy C07 without it, see `C07_counterexample_duplicate`.
-/
namespace Store

/-- **No dangling reference**: afterwards no object whatsoever holds a deleted object in any feature. -/
theorem C07_no_dangling (mm : MM) (hwf : mm.WF) (hwft : mm.WFT) (s : St) (h : Inv mm s) (ht : Typed mm s) (hn : Nd s)
    (x : Oid) (r : Bool) :
    ∀ d ∈ deleted mm s x r, ∀ o f, d ∉ (delete mm s x r).rs o f := by
  intro d hd o f hm
  rw [delete_eq, deleteAll_rs mm hwf s h ht hn, List.mem_filter] at hm
  simp [hd] at hm

/-- **The deleted objects hold no references and have no container.** -/
theorem C07_deleted_clean (mm : MM) (hwf : mm.WF) (hwft : mm.WFT) (s : St) (h : Inv mm s) (ht : Typed mm s)
    (hn : Nd s) (x : Oid) (r : Bool) :
    ∀ d ∈ deleted mm s x r, (∀ f, (delete mm s x r).rs d f = []) ∧ (delete mm s x r).cont d = none := by
  intro d hd
  constructor
  · intro f
    rw [delete_eq, deleteAll_rs mm hwf s h ht hn]
    apply List.filter_eq_nil_iff.2
    intro b _; simp [hd]
  · cases hc : (delete mm s x r).cont d with
    | none => rfl
    | some pf =>
      obtain ⟨p, f⟩ := pf
      rw [delete_eq] at hc
      have := (deleteAll_cont mm hwf s h ht hn _ d p f).1 hc
      exact absurd hd this.2.2

/-- **Nothing else is touched**: a surviving object keeps every reference value in the same order, minus the deleted
objects; its attributes, its resource membership and every resource's root list are what they were; it keeps its
container unless the container was deleted. -/
theorem C07_frame (mm : MM) (hwf : mm.WF) (hwft : mm.WFT) (s : St) (h : Inv mm s) (ht : Typed mm s) (hn : Nd s)
    (x : Oid) (r : Bool) (o : Oid) (ho : o ∉ deleted mm s x r) :
    (∀ f, (delete mm s x r).rs o f = (s.rs o f).filter (fun b => decide (b ∉ deleted mm s x r))) ∧
    (delete mm s x r).as = s.as ∧ (delete mm s x r).eres = s.eres ∧ (delete mm s x r).rcont = s.rcont ∧
    (∀ p f, (delete mm s x r).cont o = some (p, f) ↔ s.cont o = some (p, f) ∧ p ∉ deleted mm s x r) := by
  rw [delete_eq]
  refine ⟨?_, (deleteAll_drops mm s _).frame.as, (deleteAll_res mm s _).1, (deleteAll_res mm s _).2, ?_⟩
  · intro f
    rw [deleteAll_rs mm hwf s h ht hn]
    apply List.filter_congr; intro b _
    simp [ho]
  · intro p f
    rw [deleteAll_cont mm hwf s h ht hn]
    constructor
    · rintro ⟨a, b, _⟩; exact ⟨a, b⟩
    · rintro ⟨a, b⟩; exact ⟨a, b, ho⟩

/-- and the invariants of C01/C02 hold afterwards (so the remaining model is still a forest with symmetric links) -/
theorem C07_inv (mm : MM) (hwf : mm.WF) (s : St) (h : Inv mm s) (x r) : Inv mm (delete mm s x r) :=
  (delete_drops mm s x r).inv hwf h

/-! ### Non-vacuity and the excluded corner -/

/-- f0 : C0 → C0 many containment, f1 : C0 → C0 single plain reference, f2 : C0 → C0 many list-like reference -/
def exMM7 : MM :=
  { feat := fun f => if f = 0 then { many := true, cont := true }
                     else if f = 1 then { } else { many := true, unique := false }
    nFeat := 3, sub := fun c t => c == t, abstr := fun _ => false, nCls := 1 }

/-- o0 contains o1 contains o2; o3 refers to o2 and to o1; deleting o1 recursively cleans o3 and o0 -/
example :
    let s := run exMM7 [.new 0, .new 0, .new 0, .new 0, .add 0 0 (.obj 1), .add 1 0 (.obj 2),
                        .set 3 1 (.obj 2), .add 3 2 (.obj 1), .add 3 2 (.obj 0)]
    deleted exMM7 s 1 true = [2, 1] ∧
    (delete exMM7 s 1 true).rs 0 0 = [] ∧ (delete exMM7 s 1 true).rs 3 1 = [] ∧
    (delete exMM7 s 1 true).rs 3 2 = [0] ∧ (delete exMM7 s 1 true).cont 2 = none := by decide

/-- **Counterexample outside `Nd`** (kept visible: this is the recorded finding F-C07-1): a list-like reference
holding the deleted object twice keeps one occurrence — the model mirrors what the code does. -/
theorem C07_counterexample_duplicate :
    let s := run exMM7 [.new 0, .new 0, .add 0 2 (.obj 1), .add 0 2 (.obj 1)]
    (delete exMM7 s 1 true).rs 0 2 = [1] := by decide

end Store
