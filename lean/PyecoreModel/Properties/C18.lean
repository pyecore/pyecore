import PyecoreModel.Model.GetResource
import PyecoreModel.Generated.Skeletons
import PyecoreModel.Lemmas.StoreTyped
/-!
# C18 — A load that fails leaves no trace, and whatever loads is well-formed  (**partial**)

`Generated/Skeletons.lean` holds the step skeleton of `ResourceSet.get_resource` read off its AST on every run;
`runGet` interprets it.  Proved for the skeleton of the code as it is now, for every resource set, URI and load effect:

* `C18_no_trace`: when the load fails, the dict of resources afterwards *is* the dict before (whatever alias keys the
  load had registered for the failing resource), and the call raises;
* `C18_idempotent`: after a successful call, asking again for the same URI returns the same resource and changes
  nothing;
* `C18_wellformed`: a load is a sequence of the Store's public operations, so its result satisfies the invariants of
  C01–C03 (`inv_run`, `typed_run`) — whatever the document.
**Not proved** (decided by the check on every run): that the real `load` only uses those operations and raises rather
than hangs on every truncated or corrupted document (watchdog), that the metamodel registries are untouched.
-/
namespace Skel

/-- the shape the proofs below rely on, kernel-checked against the regenerated skeleton -/
theorem C18_skeleton : getResource = [.lookup, .create, .load, .removeOnError, .reraise] := by decide

/-- **A failing load leaves the resource set exactly as it was.** -/
theorem C18_no_trace (g : GState) (hf : g.Fresh) (uri : Key) (aliases : List Key)
    (hnew : lookupKey g.resources uri = none) :
    (runGet ⟨aliases, false⟩ uri getResource g none).1.resources = g.resources ∧
    (runGet ⟨aliases, false⟩ uri getResource g none).2 = .raised := by
  rw [C18_skeleton]
  simp only [runGet, hnew]
  refine ⟨?_, rfl⟩
  -- `remove_resource` takes the entries of the new id `g.next`: every entry made since `create`, none of the earlier ones
  have hold : g.resources.filter (·.2 != g.next) = g.resources :=
    List.filter_eq_self.2 fun p hp => by simpa using Nat.ne_of_lt (hf p hp)
  rw [List.filter_append, List.filter_append, hold]
  simp

/-- **Asking twice returns the same resource**, without touching the set. -/
theorem C18_idempotent (g : GState) (uri : Key) (aliases : List Key) (hnew : lookupKey g.resources uri = none) :
    let r1 := runGet ⟨aliases, true⟩ uri getResource g none
    r1.2 = .loaded g.next ∧ runGet ⟨aliases, true⟩ uri getResource r1.1 none = (r1.1, .found g.next) := by
  rw [C18_skeleton]
  simp only [runGet, hnew]
  refine ⟨rfl, ?_⟩
  -- the second call finds the entry `create` made: no earlier entry has the key
  have : lookupKey (g.resources ++ [(uri, g.next)] ++ aliases.map (fun k => (k, g.next))) uri = some g.next := by
    unfold lookupKey at hnew ⊢
    rw [List.append_assoc, List.find?_append, Option.map_eq_none_iff.1 hnew]
    simp
  simp only [runGet, this, if_true]

/-- **Whatever loads is well-formed**: any sequence of Store operations (which is all a load performs) ends in a state
satisfying the invariants of C01, C02 and C03. -/
theorem C18_wellformed (mm : Store.MM) (hwf : mm.WF) (hwft : mm.WFT) (ops : List Store.Op) :
    Store.Inv mm (Store.run mm ops) ∧ Store.Typed mm (Store.run mm ops) :=
  ⟨Store.inv_run mm hwf ops, Store.typed_run mm hwf hwft ops⟩

/-- without the handler's `remove_resource` the half-built resource would stay registered (what the skeleton check
guards against) -/
theorem C18_counterexample_no_remove :
    (runGet ⟨[], false⟩ "u" [.lookup, .create, .load, .reraise] ⟨[], 0⟩ none).1.resources = [("u", 0)] := by decide

end Skel
