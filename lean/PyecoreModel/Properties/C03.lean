import PyecoreModel.Lemmas.StoreTyped
import PyecoreModel.Lemmas.SetOps
/-!
# C03 — No feature ever holds a value of the wrong type

`conforms mm s f v` mirrors `PyEcoreValue.check` / `EcoreUtils.isinstance` for the value kinds of the model
(`None`; an object whose class is the declared class or a subtype; a Python value of the data type's Python type —
with `bool ⊂ int` as in Python).  `Typed` says every stored value conforms.  Only the property statements and their witnesses live here.
-/
namespace Store

/-- **Every observable value conforms**, after every call (returned or raised), for every well-formed and
well-typed metamodel. -/
theorem C03_typed (mm : MM) (hwf : mm.WF) (hwft : mm.WFT) (s : St) (ht : Typed mm s) (op : Op) :
    Typed mm (step mm s op).1 := typed_step mm hwf hwft s ht op

theorem C03_reachable (mm : MM) (hwf : mm.WF) (hwft : mm.WFT) (ops : List Op) : Typed mm (run mm ops) :=
  typed_run mm hwf hwft ops

/-- … with the other mutators of a set in the history -/
theorem C03_reachable_setops (mm : MM) (hwf : mm.WF) (hwft : mm.WFT) (w : List (Op ⊕ SetOp)) : Typed mm (runAny mm w) := by
  obtain ⟨ops, h⟩ := runAny_flat mm w
  rw [h]; exact C03_reachable mm hwf hwft ops

/-- `^=` / `symmetric_difference_update`, the one set mutator that brings values in, refuses them all before anything leaves -/
theorem C03_symUpd_reject (mm : MM) (s : St) (x f vs) (hf : hasFeat mm s x f = true)
    (hbad : ∃ v ∈ vs, conforms mm s f v = false) :
    setStep mm s (.symUpd x f vs) = (s, .error .badValue) := by
  obtain ⟨v, hv, hc⟩ := hbad
  have : vs.all (conforms mm s f) = false := by
    rw [List.all_eq_false]; exact ⟨v, hv, by simp [hc]⟩
  simp [setStep, SetOp.target, hf, this]

/-- the operations that carry values to be type-checked, on an object that has the feature -/
def carries (op : Op) (x : Oid) (f : Fid) : Prop := targetOf op = some (x, f)

/-- **Rejection**: if any offered value does not conform, the call raises `BadValueError` and *nothing at all*
changes — the result state is the input state (slots, containers, resources, everything). -/
theorem C03_reject (mm : MM) (s : St) (op : Op) (x f)
    (ht : targetOf op = some (x, f)) (hx : hasFeat mm s x f = true)
    (hbad : ∃ v, v ∈ offered op ∧ conforms mm s f v = false) :
    step mm s op = (s, .error .badValue) := by
  have hall : (offered op).all (conforms mm s f) = false := by
    obtain ⟨v, hv, hc⟩ := hbad
    rw [List.all_eq_false]; exact ⟨v, hv, by simp [hc]⟩
  rw [step_target mm s op x f ht]
  simp [hx, hall]

/-- **Acceptance**: conforming values are never rejected as ill-typed by an append/add/insert/item
assignment/extend/whole-collection assignment, nor by an assignment to a single-valued feature. -/
theorem C03_accept (mm : MM) (s : St) (op : Op) (x f)
    (ht : targetOf op = some (x, f))
    (hall : ∀ v, v ∈ offered op → conforms mm s f v = true)
    (hset : ∀ v, op = .set x f v → (mm.feat f).many = false) :
    (step mm s op).2 ≠ .error .badValue := by
  have hall' : (offered op).all (conforms mm s f) = true := by rw [List.all_eq_true]; exact hall
  -- the slot's own semantics refuses only a single-valued assignment to a many-valued feature, which `hset` excludes
  have key : ∀ {P r}, Outcome mm f op s P r → r.2 ≠ .error .badValue := by
    intro P r ho h
    obtain ⟨⟨x', f', v, he⟩, hm⟩ := (ho.raises h).2 rfl
    subst he; cases ht
    rw [hset v rfl] at hm; cases hm
  rw [step_target mm s op x f ht]
  simp only [hall', Bool.not_true, Bool.false_eq_true, if_false]
  split
  · simp
  · split
    · exact key (stepRef_spec mm s x f op)
    · exact key (stepAttr_spec mm s x f op)

/-! ### Non-vacuity -/

/-- C1 < C0; f0 : C0 → C1 single reference; f1 : C0 EInt attribute -/
def exMM3 : MM :=
  { feat := fun f => if f = 0 then { owner := 0, tcls := 1 }
                     else { owner := 0, isRef := false, tdt := "EInt", dflt := some (.int 0) }
    nFeat := 2, sub := fun c t => c == t || (c == 1 && t == 0), abstr := fun _ => false, nCls := 2 }

/-- an instance of the supertype is rejected where the subtype is declared, the state is unchanged; the subtype
instance is accepted; `True` is an `int` for EInt, a string is not. -/
example :
    let s := run exMM3 [.new 0, .new 1]
    step exMM3 s (.set 1 0 (.obj 0)) = (s, .error .badValue) ∧
    (step exMM3 s (.set 1 0 (.obj 1))).1.rs 1 0 = [1] ∧
    (step exMM3 s (.set 0 1 (.bool true))).1.as 0 1 = [.bool true] ∧
    (step exMM3 s (.set 0 1 (.str "a"))).2 = .error .badValue := by
  refine ⟨?_, by decide, by decide, by decide⟩
  rfl

end Store
