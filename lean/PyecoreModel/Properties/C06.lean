import PyecoreModel.Lemmas.StoreStep
import PyecoreModel.Lemmas.CommandStack
import PyecoreModel.Lemmas.Compound
/-!
# C06 — Undo restores the previous model state; redo restores the next one  (**partial**)

Full statement (kept visible): for every word over {execute(Set|Add|Remove|Move|Delete|Compound …), undo, redo} from
every reachable state, with commands that can execute and do not steal, `view (undo (exec s c)) = view s`,
`view (redo (undo (exec s c))) = view (exec s c)`, k undos then k redos are the identity, and executing after an undo
discards the undone commands.

Proved here, for all inputs: (1) the stack discipline — truncation of the redo tail, the cursor invariant, undo
followed by redo is the identity on the stack whenever the command's own undo/redo are inverse at that state;
(2) the inverse laws of Add / Remove / Move on the collection they act on, for every index (negative, out of range)
— the index conventions are where the unrepaired code was wrong; (3) every command keeps the C01/C02 invariants;
(4) **the whole-model law** for `Set`/`Add`/`Remove`/`Move` on every feature *without an opposite* (attributes,
plain references, containments) whose value is not taken away from another owner — `C06_inverse`: undo gives back the
very Store state (every slot, container, resource membership of every object), redo the state after the command;
`C06_stack_inverse`: the same through `CommandStack`; `C06_k_undo_redo`: for every word of such commands, k undos bring
back the state the word started from and k redos the state and stack after it; `C06_good_reachable` /
`C06_good_exec`: the invariants these need hold in every reachable state (`Lemmas/CommandsInverse.lean`).
**Not proved**: the whole-model inverse law for references *with an opposite* — it is false of the code as it is
(the owner is re-appended on the other end; recorded finding F-C06-1, mirrored by the model and visible in
`C06_counterexample_opposite_order`) — and `Delete`, which the model does not contain; it is decided by the check's
oracle only.  (5) **`Compound`** (`Model/Compound.lean`, tied by the `kcmd` correspondence): `can_execute` of every
sub-command is asked before any runs, `can_undo` after all ran; `C06_compound_of_one` — the two halves of a command, met
by one state, are the command alone; `C06_compound_single` — the stack of one-element compounds simulates the
stack of commands letter by letter; `C06_compound_undo` / `C06_compound_redo` — when the snapshots are stable along the
run and the sub-commands are covered ones, a compound that reports `can_undo` is undone to exactly the state before it
and redone to exactly the state after it, as one stack entry.  When the snapshots are *not* stable, or `can_undo`
refuses, the code does not restore the state (recorded finding F-C06-3; `C06_compound_refusal_witness` shows it in the
model).
-/
namespace Store

theorem C06_cursor (mm : MM) (cs : CStack) (s : St) (l : Letter) (h : cs.OK) : (cstep mm cs s l).1.OK := by
  refine cstep_cases mm (fun r => r.1.OK) cs s l (hno := fun _ _ => h) (hraise := fun _ _ _ _ _ => h)
    (hexec := ?_) (hundo := ?_) (hredo := ?_)
  · intro _ c _ _ _ _
    simp [CStack.OK, List.length_take, Nat.min_eq_left h]
  · intro _ _ _ _ _ _
    simp only [CStack.OK] at h ⊢; omega
  · intro c _ _ hc _
    have : cs.n < cs.stack.length := (List.getElem?_eq_some_iff.mp hc).1
    simp only [CStack.OK, List.length_set]; omega

/-- **Executing a new command discards the undone ones**: after a successful execute the cursor is at the end of
the stack, whatever was undone before … -/
theorem C06_truncate (mm : MM) (cs : CStack) (s : St) (sp : Spec) (h : cs.OK)
    (hok : (cstep mm cs s (.exec sp)).2.2 = "ok") :
    (cstep mm cs s (.exec sp)).1.n = (cstep mm cs s (.exec sp)).1.stack.length := by
  obtain ⟨c, r, _, _, hstep⟩ := exec_ok_shape mm cs s sp hok
  rw [hstep]
  simp [List.length_take, Nat.min_eq_left h]

/-- … so `redo` can never re-apply a superseded change: it reports an error and leaves model and stack untouched. -/
theorem C06_redo_after_execute (mm : MM) (cs : CStack) (s : St) (hn : cs.n = cs.stack.length) :
    cstep mm cs s .redo = (cs, s, "err") := by
  simp only [cstep]
  rw [List.getElem?_eq_none (by omega)]

/-- `undo` on an empty history reports an error and changes nothing. -/
theorem C06_undo_empty (mm : MM) (cs : CStack) (s : St) (hn : cs.n = 0) : cstep mm cs s .undo = (cs, s, "err") := by
  simp [cstep, hn]

/-- **undo then redo is the identity** on model and stack whenever the top command's redo inverts its undo at this
state (which is what the per-command laws below establish for the collection the command acts on). -/
theorem C06_undo_redo (mm : MM) (cs : CStack) (s : St) (c : Cmd) (hn : 0 < cs.n)
    (hc : cs.stack[cs.n - 1]? = some c) (s1 : St)
    (hu : c.undo mm s = (s1, .ok none)) (hr : c.redo mm s1 = (s, .ok none))
    (ha : c.after mm s1 = c) :      -- the redo pops the very element the undo put back
    (cstep mm (cstep mm cs s .undo).1 (cstep mm cs s .undo).2.1 .redo) = (cs, s, "ok") := by
  obtain ⟨st, n⟩ := cs
  obtain ⟨m, rfl⟩ : ∃ m, n = m + 1 := ⟨n - 1, by simp at hn; omega⟩
  rw [cstep_undo_ok mm (n := m) hc hu]
  exact cstep_redo_ok mm hc hr ha

/-! ### The collection a command acts on: inverse laws for every index -/

/-- Add with any index (clamped by `insert`), then undo (pop of the remembered effective index). -/
theorem C06_add_undo {α : Type} [DecidableEq α] (l : List α) (i : Int) (x : α) :
    Py.pyPop (Py.pyInsert l i x) (Py.clampIns l.length i : Nat) = some (l, x) :=
  Py.pyPop_insertAt Py.clampIns_le x

/-- Remove with any valid index (negative included), then undo (insert at the normalised index). -/
theorem C06_remove_undo {α : Type} [DecidableEq α] (l l' : List α) (i : Int) (x : α)
    (h : Py.pyPop l i = some (l', x)) :
    ∃ k, Py.normIdx l.length i = some k ∧ Py.pyInsert l' (k : Int) x = l := by
  obtain ⟨k, hn, hg, rfl⟩ := Py.pyPop_spec h
  exact ⟨k, hn, Py.pyInsert_eraseIdx hg⟩

/-- Move from a valid position to any index, then undo. -/
theorem C06_move_undo {α : Type} [DecidableEq α] (l : List α) (k : Nat) (x : α) (to : Int) (hg : l[k]? = some x) :
    Py.pyPop (Py.insertAt (l.eraseIdx k) (Py.clampIns (l.eraseIdx k).length to) x)
        (Py.clampIns (l.eraseIdx k).length to : Nat) = some (l.eraseIdx k, x)
    ∧ Py.insertAt (l.eraseIdx k) k x = l :=
  ⟨Py.pyPop_insertAt Py.clampIns_le x, Py.insertAt_eraseIdx hg⟩

/-- every letter of every word keeps the invariants of C01/C02 (commands only use the Store's public operations) -/
theorem C06_inv (mm : MM) (hwf : mm.WF) (cs : CStack) (s : St) (h : Inv mm s) (l : Letter) :
    Inv mm (cstep mm cs s l).2.1 := by
  have keeps : ∀ c : Cmd, Inv mm (c.exec mm s).1 ∧ Inv mm (c.undo mm s).1 :=
    fun c => c.keeps mm (fun s op _ hs => inv_step mm hwf s hs op) s h
  refine cstep_cases mm (fun r => Inv mm r.2.1) cs s l (hno := fun _ _ => h) (hraise := ?_)
    (hexec := fun _ c _ _ _ _ => (keeps c).1) (hundo := fun c _ _ _ _ _ => (keeps c).2)
    (hredo := fun c _ _ _ _ => (keeps c).1)
  rintro c _ _ _ (rfl | rfl)
  · exact (keeps c).1
  · exact (keeps c).2

/-! ### Non-vacuity, and the excluded corner -/

/-- kids/parent: f0 many (opposite f1 single).  Attribute f2 : list-like EInt. -/
def exMM6 : MM :=
  { feat := fun f => if f = 0 then { many := true, opp := some 1 }
                     else if f = 1 then { opp := some 0 }
                     else { isRef := false, many := true, unique := false, tdt := "EInt" }
    nFeat := 3, sub := fun c t => c == t, abstr := fun _ => false, nCls := 1 }

/-- Add with a far out-of-range index, a negative Move, undo both, redo both, execute anew, redo fails -/
example :
    let s0 := run exMM6 [.new 0, .add 0 2 (.int 1), .add 0 2 (.int 2)]
    let r1 := cstep exMM6 {} s0 (.exec (.add 0 2 (.int 3) (some 99)))
    let r2 := cstep exMM6 r1.1 r1.2.1 (.exec (.move 0 2 (some (-1)) (-7) none))
    let r3 := cstep exMM6 r2.1 r2.2.1 .undo
    let r4 := cstep exMM6 r3.1 r3.2.1 .undo
    let r5 := cstep exMM6 r4.1 r4.2.1 .redo
    let r6 := cstep exMM6 r5.1 r5.2.1 (.exec (.remove 0 2 none (some (-1))))
    let r7 := cstep exMM6 r6.1 r6.2.1 .redo
    r2.2.1.as 0 2 = [.int 3, .int 1, .int 2] ∧ r4.2.1.as 0 2 = [.int 1, .int 2] ∧
    r5.2.1.as 0 2 = [.int 1, .int 2, .int 3] ∧ r6.2.1.as 0 2 = [.int 1, .int 2] ∧ r6.1.stack.length = 2 ∧
    r7.2.2 = "err" ∧ r7.2.1.as 0 2 = [.int 1, .int 2] := by decide +kernel

/-- **Counterexample for references with an opposite** (finding F-C06-1, mirrored by the model): re-pointing a child
and undoing puts it back at the *end* of its old parent's children. -/
theorem C06_counterexample_opposite_order :
    let s0 := run exMM6 [.new 0, .new 0, .new 0, .new 0, .add 0 0 (.obj 2), .add 0 0 (.obj 3)]
    let r1 := cstep exMM6 {} s0 (.exec (.set 2 1 (.obj 1)))
    let r2 := cstep exMM6 r1.1 r1.2.1 .undo
    s0.rs 0 0 = [2, 3] ∧ r2.2.1.rs 0 0 = [3, 2] := by decide +kernel

/-! ### The whole-model inverse law (features without an opposite) -/

/-- every reachable state satisfies what the law needs: the shape of attribute slots, the C01/C02 invariants, C03 -/
theorem C06_good_reachable (mm : MM) (hwf : mm.WF) (hwft : mm.WFT) (ops : List Op) (hops : ∀ op ∈ ops, ArityOK mm op) :
    Good mm (run mm ops) :=
  ⟨ashape_run mm hwft ops hops, inv_run mm hwf ops, typed_run mm hwf hwft ops⟩

/-- … and so does every state a command leads to -/
theorem C06_good_exec (mm : MM) (hwf : mm.WF) (hwft : mm.WFT) (s : St) (h : Good mm s) (sp : Spec) (c : Cmd)
    (hprep : prepare mm s sp = .ok c) : Good mm (c.exec mm s).1 :=
  good_exec mm hwf hwft s h hprep

/-- **Undo restores the previous model state; redo restores the next one** — as equalities of whole Store states (every
    attribute and reference slot, container, resource membership of every object), for `Set`, `Add`, `Remove`, `Move`
    on any feature without an opposite, with any value, index (negative, out of range) or form (by value, by index),
    provided the command does not take its value away from another owner. -/
theorem C06_inverse (mm : MM) (hwf : mm.WF) (s : St) (hg : Good mm s) (sp : Spec) (hcov : Covered mm s sp)
    (c : Cmd) (hprep : prepare mm s sp = .ok c) (r : Option PyVal) (hex : (c.exec mm s).2 = .ok r) :
    (∃ r', (c.after mm s).undo mm (c.exec mm s).1 = (s, .ok r')) ∧ (c.after mm s).redo mm s = c.exec mm s :=
  covered_inverse mm hwf s hg sp hcov c hprep r hex

/-- the same through the stack: execute, undo, redo all report success; the state after undo is the state before the
    command, the state and the stack after redo are those after the command -/
theorem C06_stack_inverse (mm : MM) (hwf : mm.WF) (cs : CStack) (s : St) (hok : cs.OK) (hg : Good mm s) (sp : Spec)
    (hcov : Covered mm s sp) (h1 : (cstep mm cs s (.exec sp)).2.2 = "ok") :
    let r1 := cstep mm cs s (.exec sp)
    let r2 := cstep mm r1.1 r1.2.1 .undo
    let r3 := cstep mm r2.1 r2.2.1 .redo
    r2.2.2 = "ok" ∧ r2.2.1 = s ∧ r2.1 = { r1.1 with n := cs.n } ∧ r3.2.2 = "ok" ∧ r3.2.1 = r1.2.1 ∧ r3.1 = r1.1 :=
  stack_roundtrip mm cs s hok sp (fun c r hp he => covered_inverse mm hwf s hg sp hcov c hp r he) h1

/-- **k undos followed by k redos is the identity** (and the k undos are the inverse of the k commands): for every word
    of covered commands that all execute, from every state satisfying the invariants and every stack. -/
theorem C06_k_undo_redo (mm : MM) (hwf : mm.WF) (hwft : mm.WFT) (sps : List Spec) (cs : CStack) (s : St)
    (hok : cs.OK) (hg : Good mm s) (hcov : coveredL mm (cs, s) sps) (hall : okL mm (cs, s) (sps.map .exec)) :
    okL mm (runL mm (cs, s) (sps.map .exec)) (List.replicate sps.length .undo) ∧
    runL mm (runL mm (cs, s) (sps.map .exec)) (List.replicate sps.length .undo)
      = ({ (runL mm (cs, s) (sps.map .exec)).1 with n := cs.n }, s) ∧
    okL mm ({ (runL mm (cs, s) (sps.map .exec)).1 with n := cs.n }, s) (List.replicate sps.length .redo) ∧
    runL mm ({ (runL mm (cs, s) (sps.map .exec)).1 with n := cs.n }, s) (List.replicate sps.length .redo)
      = runL mm (cs, s) (sps.map .exec) :=
  (k_undo_redo mm hwf hwft sps cs s hok hg hcov hall).2.2

/-! non-vacuity: a metamodel with an attribute collection, a plain reference and a containment; a word over all three -/

/-- f0 : containment, many.  f1 : plain reference, single.  f2 : list-like EInt attribute. -/
def exMM6b : MM :=
  { feat := fun f => if f = 0 then { many := true, cont := true }
                     else if f = 1 then { }
                     else { isRef := false, many := true, unique := false, tdt := "EInt" }
    nFeat := 3, sub := fun c t => c == t, abstr := fun _ => false, nCls := 1 }

theorem exMM6b_plain (f : Fid) : (exMM6b.feat f).opp = none ∧ (exMM6b.feat f).dflt = none := by
  simp only [exMM6b]
  split
  · exact ⟨rfl, rfl⟩
  · split <;> exact ⟨rfl, rfl⟩

theorem exMM6b_wf : exMM6b.WF := by
  refine ⟨fun f g h => ?_, fun f g h => ?_, fun f g h => ?_, fun f => ?_, fun f g h => ?_⟩
  -- without opposites only `cont_unique` says something: the one containment, f0, is a unique reference
  any_goals (rw [(exMM6b_plain f).1] at h; cases h)
  rcases f with _ | _ | _ | f <;> simp [exMM6b]

theorem exMM6b_wft : exMM6b.WFT := by
  refine ⟨fun f g c h => ?_, fun f g h => ?_, fun f d h => ?_⟩
  · rw [(exMM6b_plain f).1] at h; cases h
  · rw [(exMM6b_plain f).1] at h; cases h
  · rw [(exMM6b_plain f).2] at h; cases h

def exOps6b : List Op := [.new 0, .new 0, .new 0, .add 0 2 (.int 1), .add 0 2 (.int 2)]
def exWord6b : List Spec :=
  [.add 0 2 (.int 3) (some 99), .add 0 0 (.obj 1) none, .set 0 1 (.obj 2), .move 0 2 (some (-1)) (-7) none,
   .add 0 0 (.obj 2) (some 0), .remove 0 0 (some (.obj 1)) none]

example : (∀ op ∈ exOps6b, ArityOK exMM6b op) ∧ okL exMM6b ({}, run exMM6b exOps6b) (exWord6b.map .exec) ∧
    coveredL exMM6b ({}, run exMM6b exOps6b) exWord6b ∧
    (run exMM6b exOps6b).rs 0 0 = [] ∧ (runL exMM6b ({}, run exMM6b exOps6b) (exWord6b.map .exec)).2.rs 0 0 = [2] ∧
    (runL exMM6b ({}, run exMM6b exOps6b) (exWord6b.map .exec)).2.as 0 2 = [.int 3, .int 1, .int 2] := by
  refine ⟨?_, by decide, coveredL_of_B _ _ _ (by decide), by decide, by decide, by decide⟩
  intro op hop
  simp only [exOps6b, List.mem_cons, List.mem_nil_iff, or_false] at hop
  rcases hop with rfl | rfl | rfl | rfl | rfl <;> simp [ArityOK, exMM6b]

/-! ### Compound commands -/

/-- a command executed alone is a compound of one: what `can_execute` fixes (`snap`) and what `do_execute` fixes
    (`Snap.fix`), when both meet the same state, are `prepare` -/
theorem C06_compound_of_one (mm : MM) (s : St) (sp : Spec) : prepare mm s sp = joinPrep mm s sp :=
  prepare_snap_fix mm s sp

/-- a letter of the single-command alphabet as a letter over compounds -/
def Letter.k : Letter → KLetter
  | .exec sp => .exec [sp]
  | .undo => .undo
  | .redo => .redo

/-- the stack of compounds that holds, entry by entry, the compound of one of a stack of commands -/
def KRel (ks : KStack) (cs : CStack) : Prop := ks.stack = cs.stack.map (fun c => [c]) ∧ ks.n = cs.n

/-- **`Compound(c)` is `c`**: letter by letter — execute, undo, redo — the stack of compounds of one simulates the
    stack of commands: same Store state afterwards, success exactly when the command alone succeeds, and the stacks stay
    related.  Every theorem above about words of single commands therefore speaks about their one-element compounds. -/
theorem C06_compound_single (mm : MM) (ks : KStack) (cs : CStack) (s : St) (l : Letter) (hrel : KRel ks cs) :
    (kstep mm ks s l.k).2.1 = (cstep mm cs s l).2.1 ∧
    ((kstep mm ks s l.k).2.2 = "ok" ↔ (cstep mm cs s l).2.2 = "ok") ∧
    KRel (kstep mm ks s l.k).1 (cstep mm cs s l).1 := by
  obtain ⟨hst, hn⟩ := hrel
  cases l with
  | exec sp =>
    simp only [Letter.k, KRel, kstep, cstep, snapAll, prepare_snap_fix, joinPrep]
    cases hs : snap mm s sp with
    | cannot => simp [hst, hn]
    | raises => simp [hst, hn]
    | ok p =>
      cases hf : p.fix mm s with
      | raises => simp [runAll, hf, hst, hn]
      | corner => simp [runAll, hf, hst, hn]
      | ok c =>
        simp only [runAll, hf]
        cases hex : (c.exec mm s).2 with
        | error e => simp [hst, hn]
        | ok r => simp [hst, hn, List.map_take]
  | undo =>
    simp only [Letter.k, KRel, kstep, cstep, hn, hst, List.getElem?_map]
    by_cases h0 : cs.n = 0
    · simp [h0, hst, hn]
    · simp only [h0, if_false]
      cases hc : cs.stack[cs.n - 1]? with
      | none => simp [hst, hn]
      | some c =>
        -- `Compound.undo` asks `can_undo`, then calls the bare `undo`: for one command that is its `undo`
        simp only [Option.map_some, canUndoAll, List.reverse_cons, List.reverse_nil, List.nil_append, undoAll, undo_eq_raw]
        cases hcu : c.canUndo mm s with
        | none => simp [hst, hn]
        | some b =>
          cases b with
          | false => simp [hst, hn]
          | true =>
            cases hr : (c.undoRaw mm s).2 with
            | error e => simp [hst, hn]
            | ok r => simp
  | redo =>
    simp only [Letter.k, KRel, kstep, cstep, hn, hst, List.getElem?_map]
    cases hc : cs.stack[cs.n]? with
    | none => simp [hst, hn]
    | some c =>
      cases hr : (c.redo mm s).2 with
      | error e => simp [redoAll, hr, hst, hn]
      | ok r => simp [redoAll, hr, List.map_set]

/-- **Undo of a `Compound`**: from every state satisfying the invariants and every stack, a compound whose sub-commands
    (any number, any of Set / Add / Remove / Move, the same feature several times if one likes) keep their snapshots
    stable along the run and are covered commands, which ran to the end and then reports `can_undo`: executing it
    pushes one entry, and `undo` brings back exactly the Store state it started from, moving the cursor back by one. -/
theorem C06_compound_undo (mm : MM) (hwf : mm.WF) (hwft : mm.WFT) (ks : KStack) (s : St) (sps : List Spec)
    (ps : List Snap) (hok : ks.n ≤ ks.stack.length) (hg : Good mm s) (hsnap : snapAll mm s sps = .ok ps)
    (hst : StableCov mm s sps ps) (s' : St) (cs : List Cmd) (hrun : runAll mm s ps = .ok s' cs)
    (hcan : canUndoAll mm s' cs = some true) :
    kstep mm ks s (.exec sps) = ({ stack := ks.stack.take ks.n ++ [cs], n := ks.n + 1 }, s', "ok") ∧
    kstep mm { stack := ks.stack.take ks.n ++ [cs], n := ks.n + 1 } s' .undo
      = ({ stack := ks.stack.take ks.n ++ [cs], n := ks.n }, s, "ok") :=
  ⟨by simp only [kstep, hsnap, hrun],
   kstep_undo_ok mm (Py.take_append_getElem? cs hok) hcan
     (compound_inverse mm hwf hwft sps ps s s' cs hg hst hrun).1⟩

/-- **Redo of a `Compound`** (same hypotheses, `can_undo` not needed): `redo` after the undo brings back exactly the
    state and the stack after the compound. -/
theorem C06_compound_redo (mm : MM) (hwf : mm.WF) (hwft : mm.WFT) (ks : KStack) (s : St) (sps : List Spec)
    (ps : List Snap) (hok : ks.n ≤ ks.stack.length) (hg : Good mm s)
    (hst : StableCov mm s sps ps) (s' : St) (cs : List Cmd) (hrun : runAll mm s ps = .ok s' cs) :
    kstep mm { stack := ks.stack.take ks.n ++ [cs], n := ks.n } s .redo
      = ({ stack := ks.stack.take ks.n ++ [cs], n := ks.n + 1 }, s', "ok") :=
  kstep_redo_ok mm (Py.take_append_getElem? cs hok)
    (compound_inverse mm hwf hwft sps ps s s' cs hg hst hrun).2.1

/-- even without asking `can_undo`: the sub-commands' bare `undo`s, in reverse order, all succeed and restore the state -/
theorem C06_compound_undo_raw (mm : MM) (hwf : mm.WF) (hwft : mm.WFT) (sps : List Spec) (ps : List Snap) (s s' : St)
    (cs : List Cmd) (hg : Good mm s) (hst : StableCov mm s sps ps) (hrun : runAll mm s ps = .ok s' cs) :
    undoAll mm s' cs.reverse = (s, true) :=
  (compound_inverse mm hwf hwft sps ps s s' cs hg hst hrun).1

/-! non-vacuity: three sub-commands, two of them on the same list attribute, over `exMM6b` -/
def exComp6 : List Spec := [.add 0 2 (.int 3) (some 99), .set 0 1 (.obj 2), .add 0 2 (.int 4) (some 0)]
def exSnaps6 : List Snap := [.add 0 2 (.int 3) (some 99), .set 0 1 (.obj 2), .add 0 2 (.int 4) (some 0)]

example : snapAll exMM6b (run exMM6b exOps6b) exComp6 = .ok exSnaps6 ∧
    StableCov exMM6b (run exMM6b exOps6b) exComp6 exSnaps6 ∧
    (kstep exMM6b {} (run exMM6b exOps6b) (.exec exComp6)).2.2 = "ok" ∧
    (kstep exMM6b {} (run exMM6b exOps6b) (.exec exComp6)).2.1.as 0 2 = [.int 4, .int 1, .int 2, .int 3] ∧
    (match runAll exMM6b (run exMM6b exOps6b) exSnaps6 with
     | .ok s' cs => canUndoAll exMM6b s' cs == some true
     | _ => false) = true := by
  refine ⟨by decide, stableCov_of_B _ _ _ _ (by decide), by decide, by decide, by decide⟩

/-- **F-C06-3 in the model**: `Compound(Add(x, f, 7), Remove(x, f, value=7))` executes; its snapshots are stable and its
    sub-commands covered, so the bare undos would restore the state (`C06_compound_undo_raw`) — but `Add.can_undo` looks
    for the added value in the collection *after the whole compound ran*, does not find it, and the stack's `undo` does
    nothing: the state stays the one after the compound. -/
theorem C06_compound_refusal_witness :
    let s0 := run exMM6b exOps6b
    let r1 := kstep exMM6b {} s0 (.exec [.add 0 2 (.int 7) none, .remove 0 2 (some (.int 7)) none])
    let r2 := kstep exMM6b r1.1 r1.2.1 .undo
    r1.2.2 = "ok" ∧ r1.2.1.as 0 2 = s0.as 0 2 ∧ r2.2.2 = "err" ∧ r2.1.n = 1 := by
  decide +kernel

end Store
