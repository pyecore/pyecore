import PyecoreModel.Lemmas.Codec
import PyecoreModel.Generated.DataTypeTable
import Std.Data.String.ToInt
/-!
# C17 — Data type values survive conversion to text and back  (**partial: floats and Decimal by enumeration**)

`Generated/DataTypeTable.lean` is rewritten from `/repo` on every run: every `EDataType` of `pyecore.ecore` and
`pyecore.type` with its Python type and the *kind* of its converters (classified from the callable's identity or the
lambda's code object).  `C17_table` is re-checked by the kernel against that table: a data type whose converters no
longer form one of the round-tripping combinations breaks this theorem.  The kinds themselves are proved below for
every value of the domain; `str(float)`/`float(s)` and `str(Decimal)`/`Decimal(s)` are CPython's and are covered by
the check's enumeration and sampling only.
-/
namespace Codec

/-- **integers**: `int(str(n)) = n` for every integer, unbounded. -/
theorem C17_int (n : Int) : intFrom (intTo n) = some n := Int.toInt?_repr n

/-- **booleans** -/
theorem C17_bool (b : Bool) : boolFrom (boolTo b) = b := by cases b <;> decide

/-- **strings, characters**: the text form is the value. -/
theorem C17_str (s : String) : (fun x : String => x) ((fun x : String => x) s) = s := rfl

/-- **enumerations**: a literal is found again by its name, when names are unique in the enumeration. -/
theorem C17_enum (names : List String) (hn : names.Nodup) (k : Nat) (hk : k < names.length) :
    enumFrom names names[k] = some k := enum_roundtrip names hn k hk

/-- **dates**, with and without time zone, offset seconds and microseconds: for every date whose fields fit the
fixed-width form (year ≤ 9999; years below 1000 are written zero-padded since the repair recorded in known_findings.json — glibc's `%Y` alone is not 4 wide there). -/
theorem C17_date (d : DT) (h : d.Fits) : parseDate (fmtDate d) = some d := parseDate_fmtDate d h

/-- **the table of the code as it is now**: no data type with a textual Python type has converters outside the
round-tripping combinations. -/
theorem C17_table : ∀ r ∈ dataTypeTable, r.status ≠ .broken := by decide +kernel

/-- the rows whose round trip rests on the theorems above, resp. on sampling (reported in the evidence) -/
def provedRows : List String := (dataTypeTable.filter (·.status = .proved)).map (·.name)
def sampledRows : List String := (dataTypeTable.filter (·.status = .sampled)).map (·.name)

/-! ### Non-vacuity -/
example : parseDate (fmtDate ⟨2024, 2, 29, 23, 59, 58, 999999, some ⟨true, 23, 59, 59, 999999⟩⟩)
    = some ⟨2024, 2, 29, 23, 59, 58, 999999, some ⟨true, 23, 59, 59, 999999⟩⟩ := by decide +kernel
example : String.ofList (fmtDate ⟨87, 1, 2, 3, 4, 5, 6, none⟩) = "0087-01-02T03:04:05.000006" := by decide +kernel
example : String.ofList (fmtDate ⟨1000, 1, 2, 3, 4, 5, 6, some ⟨false, 1, 0, 0, 0⟩⟩) = "1000-01-02T03:04:05.000006+0100" := by
  decide +kernel
example : intFrom (intTo (-12345678901234567890123)) = some (-12345678901234567890123) := C17_int _
example : (dataTypeTable.filter (·.status = .proved)).length ≥ 30 := by decide +kernel

end Codec
