import PyecoreModel.Lemmas.StoreStep
import PyecoreModel.Lemmas.SetOps
/-!
# C02 — Every object has exactly one owner, and the back-pointers say so

Same model as C01.  `cont` is `_container/_containment_feature`, `eres` is `_eresource`, `rcont r` is
`Resource.contents`.  Only the property statements, the two views they are stated with and their witnesses live here.
-/
namespace Store

/-- **One call** (returned or raised): the back-pointers name exactly the containment slot / root list holding
the object; resource root lists are duplicate-free; a contained object is a root of nothing. -/
theorem C02_step (mm : MM) (hwf : mm.WF) (s : St) (h : Inv mm s) (op : Op) :
    Own mm (step mm s op).1 ∧ ResOK (step mm s op).1 ∧ Card mm (step mm s op).1 :=
  let i := inv_step mm hwf s h op; ⟨i.own, i.res, i.card⟩

theorem C02_reachable (mm : MM) (hwf : mm.WF) (ops : List Op) :
    Own mm (run mm ops) ∧ ResOK (run mm ops) ∧ Card mm (run mm ops) :=
  let i := inv_run mm hwf ops; ⟨i.own, i.res, i.card⟩

/-- … with the other mutators of a set (`discard`, `-=`, `&=`, `^=`, the `*_update` family) in the history -/
theorem C02_reachable_setops (mm : MM) (hwf : mm.WF) (w : List (Op ⊕ SetOp)) :
    Own mm (runAny mm w) ∧ ResOK (runAny mm w) ∧ Card mm (runAny mm w) := by
  obtain ⟨ops, h⟩ := runAny_flat mm w
  rw [h]; exact C02_reachable mm hwf ops

/-- **At most one owner**: two containment slots holding `o` are the same slot; it holds `o` once; an object held by a
containment slot is in no resource's root list; an object is a root of at most one resource, once. -/
theorem C02_one_owner (mm : MM) (hwf : mm.WF) (s : St) (h : Inv mm s) (o : Oid) :
    (∀ p f p' f', (mm.feat f).cont = true → o ∈ s.rs p f → (mm.feat f').cont = true → o ∈ s.rs p' f' →
        p = p' ∧ f = f') ∧
    (∀ p f, (mm.feat f).cont = true → o ∈ s.rs p f → (s.rs p f).count o = 1 ∧ ∀ r, o ∉ s.rcont r) ∧
    (∀ r r', o ∈ s.rcont r → o ∈ s.rcont r' → r = r') ∧
    (∀ r, o ∈ s.rcont r → (s.rcont r).count o = 1) := by
  refine ⟨?_, ?_, ?_, ?_⟩
  · intro p f p' f' hc hm hc' hm'
    have a := (h.own o p f).2 ⟨hc, hm⟩
    have b := (h.own o p' f').2 ⟨hc', hm'⟩
    rw [a] at b; cases b; exact ⟨rfl, rfl⟩
  · intro p f hc hm
    have hu : (mm.feat f).isList = false := isList_false_of_cont mm hwf hc
    exact ⟨by rw [((h.card p f).2 hu).count]; simp [hm], h.res.not_root ((h.own o p f).2 ⟨hc, hm⟩)⟩
  · intro r r' h1 h2
    have a := (h.res.roots o r).2 h1
    have b := (h.res.roots o r').2 h2
    rw [a] at b; cases b; rfl
  · intro r h1
    rw [(h.res.nodup r).count]; simp [h1]

/-- **An operation that fails leaves ownership as it was** — in fact the whole state. -/
theorem C02_failed_keeps (mm : MM) (s : St) (op : Op) (e : Py.Err)
    (h : (step mm s op).2 = .error e) : (step mm s op).1 = s :=
  step_error_unchanged mm s op e h

/-- **Giving an object a new owner removes it from the previous one**: after storing `y` into the containment
reference `x.f` (assignment, append, add, insert — `link` is their common net effect), `y`'s back-pointer names
`(x, f)`, `y` is in no other containment slot, and in no resource's root list. -/
theorem C02_move (mm : MM) (hwf : mm.WF) (s : St) (h : Inv mm s) (x f y pos)
    (hc : (mm.feat f).cont = true) :
    (link mm s x f y pos).cont y = some (x, f) ∧
    (∀ p f', (mm.feat f').cont = true → y ∈ (link mm s x f y pos).rs p f' → p = x ∧ f' = f) ∧
    (∀ r, y ∉ (link mm s x f y pos).rcont r) := by
  have hi := link_inv mm hwf s h x f y pos
  have hy := link_mem mm hwf s x f y pos
  have hcont := (hi.own y x f).2 ⟨hc, hy⟩
  exact ⟨hcont, fun p f' hc' hm => (C02_one_owner mm hwf _ hi y).1 p f' x f hc' hm hc hy, hi.res.not_root hcont⟩

/-- `Resource.append`: the object is a root of that resource afterwards, of no other, and has no container. -/
theorem C02_rappend (mm : MM) (hwf : mm.WF) (s : St) (h : Inv mm s) (r o) :
    Inv mm (rappend mm s r o) := rappend_inv mm hwf s h r o

/-- `EObject.eResource`: delegate to the container, else own `_eresource` (bounded by `fuel` levels). -/
def eResourceOf (s : St) : Nat → Oid → Option Rid
  | 0, o => s.eres o
  | n + 1, o => match s.cont o with
    | some (p, _) => eResourceOf s n p
    | none => s.eres o

/-- the top of the container chain (`EcoreUtils.get_root`) -/
def rootOf (s : St) : Nat → Oid → Oid
  | 0, o => o
  | n + 1, o => match s.cont o with
    | some (p, _) => rootOf s n p
    | none => o

/-- **Every descendant reports its root's resource**, whatever the depth, whenever the chain ends within the fuel
(`(rootOf s n o)` has no container — always true for acyclic containment with `n ≥` the depth). -/
theorem C02_eResource_root (s : St) (n : Nat) (o : Oid) (hroot : s.cont (rootOf s n o) = none) :
    eResourceOf s n o = s.eres (rootOf s n o) := by
  induction n generalizing o with
  | zero => rfl
  | succ n ih =>
    simp only [eResourceOf, rootOf] at hroot ⊢
    cases hc : s.cont o with
    | none => rfl
    | some pf => obtain ⟨p, f⟩ := pf; simp only [hc] at hroot ⊢; exact ih p hroot

/-! ### Non-vacuity -/

/-- f0 : C0 → C0 many containment (kids), f1 : C0 → C0 single (parent), opposites. -/
def exMM2 : MM :=
  { feat := fun f => if f = 0 then { owner := 0, many := true, cont := true, tcls := 0, opp := some 1 }
                     else if f = 1 then { owner := 0, tcls := 0, opp := some 0 } else { isRef := false }
    nFeat := 2, sub := fun c t => c == t, abstr := fun _ => false, nCls := 1 }

theorem exMM2_wf : exMM2.WF := by
  refine ⟨?_, ?_, ?_, ?_, ?_⟩ <;> intro f <;> rcases f with _ | _ | f <;> simp [exMM2]

/-- p0.kids += c ; c.parent = p1 (moves c through the container reference) ; resource.append(c) (takes it out);
then a failing removal changes nothing -/
example :
    let s := run exMM2 [.new 0, .new 0, .new 0, .res, .add 0 0 (.obj 2), .set 2 1 (.obj 1)]
    s.rs 0 0 = [] ∧ s.rs 1 0 = [2] ∧ s.cont 2 = some (1, 0) ∧ s.rs 2 1 = [1] ∧
    (let s' := (step exMM2 s (.rappend 0 2)).1
     s'.rs 1 0 = [] ∧ s'.cont 2 = none ∧ s'.eres 2 = some 0 ∧ s'.rcont 0 = [2] ∧ s'.rs 2 1 = []) ∧
    (step exMM2 s (.remove 0 0 (.obj 2))).2 = .error .keyError := by decide

end Store
