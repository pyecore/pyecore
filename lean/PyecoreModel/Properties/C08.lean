import PyecoreModel.Lemmas.XmiValues
import PyecoreModel.Lemmas.XmiDoc
import PyecoreModel.Lemmas.XmiDocRefs
import PyecoreModel.Lemmas.XmiDocIds
import PyecoreModel.Lemmas.XmiDocCheck
/-!
# C08 — XMI save then load reproduces the model  (**partial: layer theorems; the composition is decided by the check**)

Full statement (kept visible): for every well-formed model `s` in a resource `r` and all save options,
`canon (load (save s r opts)) = canon s r` — same roots in order, classes, attribute values (order, duplicates, every
XML-legal string), containment tree in order, reference targets in order; and the loaded model satisfies C01–C03.

Proved here are the layers the round trip is made of, each for *all* its inputs:
* L1 value ↔ text: C17 (`C17_int`, `C17_bool`, `C17_date`, `C17_enum`, …);
* L2 many-valued attribute ↔ one XML attribute or child elements: `C08_many_roundtrip` (every list of strings, incl.
  empty strings, whitespace of every kind, duplicates) on top of `C08_split_join` (Python's `str.split()` inverts
  `' '.join` on non-empty whitespace-free words);
* L3 single-valued attribute, default elision, `xsi:nil`: `C08_one_roundtrip` (every value, every default, both
  settings of SERIALIZE_DEFAULT_VALUES);
* L4 references: positional fragments resolve back (C11, `C11_resolve_frag`), ids registered once are found again
  (`C08_id_lookup`);
* L5 order of many-valued bidirectional references: `C08_reorder`.
* "whatever loads is well-formed": load only uses the Store's public operations, so `inv_run` / `typed_run`
  (C01–C03) apply to its result; the check verifies C01–C03 on every loaded model.
The composition of the layers is proved at the level of the XML element tree (`Model/XmiDoc.lean`):
* `C08_element_roundtrip`: decoding the element written for a well-formed object tree gives its normal form — any depth,
  any number of children, every feature kind, every option;
* `C08_document`: the whole forest with two-pass reference resolution, given that each token resolves back;
* `C08_fragment_text`, `C08_document_fragment`: that hypothesis discharged for fragment addressing;
* `C08_key_resolves`, `C08_document_addressing`: … and for every addressing mode (uuid, id attribute value, fragment),
  under the only condition that no two objects go by the same key.
**Not proved**: the text level below the element tree (lxml's parsing and escaping), namespaces/prefixes, cross-resource
references and proxies, and that pyecore's objects correspond to the model's trees.  These are decided on every run by
the correspondence (`driver xdoc`) and by the isomorphism oracle on generated (metamodel, model, options) triples.
-/
namespace Xmi

/-- Python's `str.split()` undoes `' '.join` on words that are non-empty and contain no whitespace, for any
whitespace predicate that contains the blank. -/
theorem C08_split_join (ws : Char → Bool) (hsp : ws ' ' = true) (l : List (List Char))
    (h : ∀ w ∈ l, w ≠ [] ∧ ∀ c ∈ w, ws c = false) : pySplit ws (joinSp l) = l :=
  split_join ws hsp l h

/-- **L2**: every list of strings survives being written as a many-valued attribute and read back. -/
theorem C08_many_roundtrip (ws : Char → Bool) (hsp : ws ' ' = true) (vs : List (List Char)) :
    decodeMany ws (encodeMany ws vs) = vs := by
  unfold encodeMany
  split
  · next he => rw [List.isEmpty_iff.1 he]; rfl
  · split
    · rfl
    · next hs => exact split_join ws hsp vs (not_special_words ws vs (by simpa using hs))

/-- **L3**: every single value (None included) survives, whatever the default and the serialize-defaults option. -/
theorem C08_one_roundtrip {α : Type} [DecidableEq α] (sd : Bool) (dflt value : Option α) :
    decodeOne dflt (encodeOne sd dflt value) = value := by
  cases value with
  | none => cases dflt <;> cases sd <;> rfl
  | some v =>
    simp only [encodeOne]
    split
    · rfl
    · next h =>
      -- not written: it is the default, which is what an absent attribute reads as
      simp at h
      simp only [decodeOne, h.1]

/-- **L4 (ids)**: an id that is registered once while decoding is found again, whatever else is in the table. -/
theorem C08_id_lookup {β : Type} (pre post : List (List Char × β)) (k : List Char) (b : β)
    (h : ∀ p ∈ post, p.1 ≠ k) : lookupId (pre ++ (k, b) :: post) k = some b := by
  have hpost : post.reverse.find? (fun p => p.1 == k) = none :=
    List.find?_eq_none.2 fun p hp => by simpa using h p (List.mem_reverse.1 hp)
  simp [lookupId, List.find?_append, hpost]

/-- **L5**: a collection that holds exactly the elements the document lists ends up in document order; otherwise it
is left alone; in both cases it keeps its elements. -/
theorem C08_reorder (coll doc : List Nat) :
    ((coll.length = doc.length ∧ ∀ x, x ∈ coll ↔ x ∈ doc) → reorder coll doc = doc) ∧
    (∀ x, x ∈ reorder coll doc ↔ x ∈ coll) := by
  unfold reorder
  simp only [List.all_eq_true, List.contains_iff_mem]
  constructor
  · intro ⟨hl, hm⟩
    exact if_pos ⟨hl, fun x => (hm x).1, fun x => (hm x).2⟩
  · intro x
    split
    · next h => exact ⟨h.2.2 x, h.2.1 x⟩
    · rfl

/-! ### Non-vacuity -/
example : encodeMany (· == ' ') ["ab".toList, "c".toList] = some (.attr "ab c".toList) := by decide +kernel
example : encodeMany (· == ' ') ["a b".toList, "".toList] = some (.elements ["a b".toList, "".toList]) := by decide +kernel
example : decodeMany (· == ' ') (encodeMany (· == ' ') ["x".toList, "x".toList, " ".toList]) = ["x".toList, "x".toList, " ".toList] := by
  decide +kernel
example : encodeOne false (some 0) (none : Option Int) = .nil ∧ encodeOne false (some 0) (some 0) = .absent ∧
    encodeOne true (some 0) (some 0) = .attr 0 ∧ encodeOne false (none : Option Int) none = .absent := by decide +kernel

end Xmi

/-! ## The document layer (`Model/XmiDoc.lean`): a whole containment tree, element by element -/
namespace XDoc
open Xmi

/-- **Element-level round trip.**  For every well-formed object tree — any depth, any number of children, every
    combination of set / unset / None / default / empty / blank-containing values, with or without `xsi:type`, in both
    uuid modes and both settings of SERIALIZE_DEFAULT_VALUES — what `load` builds from the element `save` wrote is the
    object's normal form: the same class, every attribute and reference with its effective value in order, the same
    children under the same containment features in the same order. -/
theorem C08_element_roundtrip (mm : MMX) (o : Opts) (hmm : MMOK mm) (n : SNode Str) (h : WFN mm n) (top : Bool) (decl : Nat) :
    decNode mm top decl (encNode mm o top decl n) = some (eff mm o top n) :=
  dec_enc mm o hmm n h top decl

/-- **Document-level round trip.**  With references written as tokens (`_build_path_from`) and resolved after all
    objects exist (`_decode_ereferences`): if every token is one word and resolves in the loaded forest to the path it
    was written for, loading the saved document gives the normal form of every root with every reference on its
    original target. -/
theorem C08_document (mm : MMX) (o : Opts) (hmm : MMOK mm) (render : Path → Str) (parse : Str → Option Path)
    (roots : List (SNode Path))
    (hwf : ∀ r ∈ roots, WFG mm (fun p => Word mm.ws (tokenOf mm o render roots p)) r)
    (hres : ∀ r ∈ roots, AllRefs (fun p =>
        resolveTok mm o parse (roots.map fun r => eff mm o true (mapT (tokenOf mm o render roots) r))
          (tokenOf mm o render roots p) = some p) r) :
    (encodeDoc mm o render roots).bind (decodeDoc mm o parse) = some (roots.map (eff mm o true)) :=
  doc_roundtrip_codec mm o (encNode mm o true 0) (decNode mm true 0) _ (tokenOf mm o render roots)
    (tokenOf mm o render roots) (resolveTok mm o parse) roots
    (fun r _ => mapRefs_total _ r)
    (fun r hr => dec_enc mm o hmm _ (WFG_mapT mm _ (Word mm.ws) _ (fun _ h => h) r (hwf r hr)) true 0)
    hres

/-- the text of a fragment path reads back as the path (`eURIFragment` / `extract_rootnum_and_frag` + `_navigate_from`),
    for every path over feature names without `/` and `.` -/
theorem C08_fragment_text (single : Bool) (p : Path) (hn : ∀ s ∈ p.segs, NameOK s.1) (hroot : single = true → p.root = 0) :
    parsePath (renderPath single p) = some p :=
  parse_render single p hn hroot

/-- **Document-level round trip, fragment addressing — no resolution hypothesis left.**  A resource without uuids over
    a metamodel without id attributes: for every forest of well-formed objects whose references point into the forest,
    loading the saved document gives every root's normal form with every reference on its original target. -/
theorem C08_document_fragment (mm : MMX) (o : Opts) (hmm : MMOK mm) (single : Bool) (roots : List (SNode Path))
    (hu : o.uuid = false) (hid : ∀ c, ∀ fi ∈ mm.feats c, fi.isId = false)
    (hsingle : single = true → roots.length = 1)
    (hwf : ∀ r ∈ roots, WFG mm (fun p => Word mm.ws (renderPath single p)) r)
    (hrefs : ∀ r ∈ roots, AllRefs (fun p => (nodeAt roots p).isSome = true ∧ (∀ s ∈ p.segs, NameOK s.1 ∧ '#' ∉ s.1)) r) :
    (encodeDoc mm o (renderPath single) roots).bind (decodeDoc mm o parsePath) = some (roots.map (eff mm o true)) := by
  -- without keys every token is the fragment text
  have htok : tokenOf mm o (renderPath single) roots = renderPath single :=
    funext fun p => tokenOf_fragment mm o _ roots p hu hid
  apply C08_document mm o hmm (renderPath single) parsePath roots
  · rw [htok]
    exact hwf
  · rw [htok]
    exact AllRefsL_mono _ _ (fun p h =>
      resolve_fragment mm o hmm _ _ roots _ hwf p h.1 (fragOK_renderPath single roots hsingle p h.1 h.2)) roots hrefs

/-- Document round trip, uuid addressing.  In a uuid resource over a metamodel without id attributes, for every forest
    of well-formed objects whose uuids are pairwise distinct blank-free words that can stand as tokens and whose
    references point (by canonical path) at objects of the forest: loading what was saved gives every root's normal form
    with every reference on its original target. -/
theorem doc_roundtrip_uuid (mm : MMX) (o : Opts) (hmm : MMOK mm) (render : Path → Str) (parse : Str → Option Path)
    (roots : List (SNode Path))
    (hu : o.uuid = true) (hid : ∀ c, ∀ fi ∈ mm.feats c, fi.isId = false)
    (hwf : ∀ r ∈ roots, WFG mm (fun p => ∃ n, (p, n) ∈ allNodes mm roots) r)
    (hrefs : ∀ r ∈ roots, AllRefs (fun p => ∃ n, (p, n) ∈ allNodes mm roots) r)
    (htok : ∀ q m, (q, m) ∈ allNodes mm roots → UuidTok m.uuid ∧ Word mm.ws m.uuid)
    (hdist : ∀ q m q' m', (q, m) ∈ allNodes mm roots → (q', m') ∈ allNodes mm roots → m.uuid = m'.uuid → q = q') :
    (encodeDoc mm o render roots).bind (decodeDoc mm o parse) = some (roots.map (eff mm o true)) := by
  have key := token_resolves_uuid mm o hmm render parse roots hu hid hwf (fun q m h => (htok q m h).1) hdist
  apply C08_document mm o hmm render parse roots
  · refine WFGL_mono mm _ _ (fun p hp => ?_) roots hwf
    obtain ⟨n, hn⟩ := hp
    exact (key p n hn).1 (fun _ => (htok p n hn).2) fun h => by simp [(noId (ρ := Path) mm o hid).2 n, hu] at h
  · exact AllRefsL_mono _ _ (fun p ⟨n, hn⟩ => (key p n hn).2) roots hrefs

/-- **Document-level round trip, every addressing mode — no resolution hypothesis left.**  Whatever the resource uses to
    address a target (its uuid in a uuid resource, the value of its id attribute when that can stand as a token, its
    fragment path otherwise): for every forest of well-formed objects whose references point, by canonical path, at
    objects of the forest, and in which no two objects go by the same key, loading the saved document gives every
    root's normal form with every reference on its original target. -/
theorem C08_document_addressing (mm : MMX) (o : Opts) (hmm : MMOK mm) (hid : IdOK mm) (single : Bool) (roots : List (SNode Path))
    (hsingle : single = true → roots.length = 1)
    (hwf : ∀ r ∈ roots, WFG mm (Target mm single roots) r)
    (hrefs : ∀ r ∈ roots, AllRefs (Target mm single roots) r)
    (huuid : o.uuid = true → ∀ q m, (q, m) ∈ allNodes mm roots → UuidTok m.uuid ∧ Word mm.ws m.uuid)
    (hdist : ∀ q m q' m' k, (q, m) ∈ allNodes mm roots → (q', m') ∈ allNodes mm roots →
      k ∈ keysOf mm o m → k ∈ keysOf mm o m' → q = q') :
    (encodeDoc mm o (renderPath single) roots).bind (decodeDoc mm o parsePath) = some (roots.map (eff mm o true)) := by
  have key := token_resolves_target mm o hmm hid single roots hsingle hwf huuid hdist
  exact C08_document mm o hmm (renderPath single) parsePath roots
    (WFGL_mono mm _ _ (fun p hp => (key p hp).1) roots hwf)
    (AllRefsL_mono _ _ (fun p hp => (key p hp).2) roots hrefs)

/-- a key that can stand as a token resolves to the object that goes by it, in the forest as loaded -/
theorem C08_key_resolves {P : Path → Prop} (mm : MMX) (o : Opts) (hmm : MMOK mm) (hid : IdOK mm) (roots : List (SNode Path))
    (g : Path → Str) (parse : Str → Option Path)
    (hwf : ∀ r ∈ roots, WFG mm P r)
    (hdist : ∀ q m q' m' k, (q, m) ∈ allNodes mm roots → (q', m') ∈ allNodes mm roots →
      k ∈ keysOf mm o m → k ∈ keysOf mm o m' → q = q')
    (p : Path) (n : SNode Path) (hp : (p, n) ∈ allNodes mm roots) (k : Str) (hk : k ∈ keysOf mm o n) (hshape : UuidTok k) :
    resolveTok mm o parse (roots.map fun r => eff mm o true (mapT g r)) k = some p :=
  resolveTok_key mm o hmm hid roots g parse hwf hdist p n hp k hk hshape

/-! ### Non-vacuity -/

/-- a two-class metamodel: `A` with a many-valued string attribute `tags`, a single-valued `n` defaulting to "0", a
    many-valued containment `kids : A`, a single containment `one : B`, a many-valued reference `refs : A`;
    `B` a subclass-like second class with attribute `v` -/
def exMM : MMX :=
  { nCls := 2
    cname := fun c => if c = 0 then "A".toList else "B".toList
    feats := fun c => if c = 0 then
        [⟨"tags".toList, .attr, true, none, 0, false, false⟩, ⟨"n".toList, .attr, false, some "0".toList, 0, false, false⟩,
         ⟨"kids".toList, .cont, true, none, 0, false, false⟩, ⟨"one".toList, .cont, false, none, 0, false, false⟩,
         ⟨"refs".toList, .ref, true, none, 0, false, false⟩]
      else [⟨"v".toList, .attr, false, none, 0, false, false⟩]
    ws := fun c => c == ' ' || c == '\t' || c == '\n' }

def exForest : List (SNode Path) :=
  [.mk [] 0 "u0".toList
     [("tags".toList, .attrN [some "a b".toList, none, some [] ]), ("kids".toList, .kids), ("refs".toList, .refN [⟨0, [("kids".toList, some 1)]⟩, ⟨0, []⟩]),
      ("one".toList, .kids)]
     [.mk "kids".toList 0 "u1".toList [("n".toList, .attr1 "0".toList)] [],
      .mk "kids".toList 0 "u2".toList [("n".toList, .attr1 "7".toList), ("tags".toList, .attrN [some "x".toList, some "y".toList])] [],
      .mk "one".toList 1 "u3".toList [("v".toList, .none)] []]]

/-- the whole pipeline on a concrete forest, in fragment mode and in uuid mode: save, load, same normal form -/
example :
    (encodeDoc exMM ⟨false, false⟩ (renderPath true) exForest).bind (decodeDoc exMM ⟨false, false⟩ parsePath)
      = some (exForest.map (eff exMM ⟨false, false⟩ true)) := by decide +kernel
example :
    (encodeDoc exMM ⟨true, true⟩ (renderPath true) exForest).bind (decodeDoc exMM ⟨true, true⟩ parsePath)
      = some (exForest.map (eff exMM ⟨true, true⟩ true)) := by decide +kernel

/-! A concrete forest meets every hypothesis of `C08_document_fragment`.  `WFG` and `AllRefs` are checked object by
    object (`wfg_of_nodes`, `allRefs_of_nodes`), each object by evaluation. -/

def tinyMM : MMX :=
  { nCls := 1
    cname := fun _ => "A".toList
    feats := fun _ => [⟨"n".toList, .attr, false, none, 0, false, false⟩, ⟨"kids".toList, .cont, true, none, 0, false, false⟩,
                       ⟨"to".toList, .ref, false, none, 0, false, false⟩]
    ws := fun c => c == ' ' }

def tinyForest : List (SNode Path) :=
  [.mk [] 0 [] [("n".toList, .attr1 "x y".toList), ("kids".toList, .kids), ("to".toList, .ref1 ⟨0, [("kids".toList, some 0)]⟩)]
     [.mk "kids".toList 0 [] [] []]]

theorem tinyMM_ok : MMOK tinyMM :=
  .of_nodup (by decide) (fun _ => (by decide +kernel : ((tinyMM.feats 0).map (·.name)).Nodup)) (by decide +kernel)

section
open Check

example :
    (∀ r ∈ tinyForest, WFG tinyMM (fun p => Word tinyMM.ws (renderPath true p)) r) ∧
    (∀ r ∈ tinyForest, AllRefs (fun p => (nodeAt tinyForest p).isSome = true ∧ (∀ s ∈ p.segs, NameOK s.1 ∧ '#' ∉ s.1)) r) :=
  ⟨wfg_of_nodes tinyMM tinyForest (by decide +kernel), allRefs_of_nodes tinyMM tinyForest (by decide +kernel)⟩

end

/-! A forest with uuids and an id attribute meets every hypothesis of `C08_document_addressing`. -/

def idMM : MMX :=
  { nCls := 1
    cname := fun _ => "A".toList
    feats := fun _ => [⟨"n".toList, .attr, false, none, 0, true, false⟩, ⟨"kids".toList, .cont, true, none, 0, false, false⟩,
                       ⟨"to".toList, .ref, false, none, 0, false, false⟩]
    ws := fun c => c == ' ' }

def idForest : List (SNode Path) :=
  [.mk [] 0 "u0".toList [("n".toList, .attr1 "x y".toList), ("kids".toList, .kids), ("to".toList, .ref1 ⟨0, [("kids".toList, some 0)]⟩)]
     [.mk "kids".toList 0 "u1".toList [("n".toList, .attr1 "k".toList)] []]]

theorem idMM_ok : MMOK idMM :=
  .of_nodup (by decide) (fun _ => (by decide +kernel : ((idMM.feats 0).map (·.name)).Nodup)) (by decide +kernel)

theorem idMM_idok : IdOK idMM :=
  fun _ => (by decide : ∀ fi ∈ idMM.feats 0, fi.isId = true → fi.kind = .attr → fi.many = false ∧ fi.float = false)

theorem idForest_nodes : allNodes idMM idForest =
    [(⟨0, []⟩, .mk [] 0 "u0".toList [("n".toList, .attr1 "x y".toList), ("kids".toList, .kids), ("to".toList, .ref1 ⟨0, [("kids".toList, some 0)]⟩)]
        [.mk "kids".toList 0 "u1".toList [("n".toList, .attr1 "k".toList)] []]),
     (⟨0, [("kids".toList, some 0)]⟩, .mk "kids".toList 0 "u1".toList [("n".toList, .attr1 "k".toList)] [])] := by
  rfl

/-- the whole pipeline on this forest: uuid mode; id mode (the child goes by its id `k`, the root's id `x y` is no token so
    its fragment is used) -/
example : (encodeDoc idMM ⟨false, true⟩ (renderPath true) idForest).bind (decodeDoc idMM ⟨false, true⟩ parsePath)
    = some (idForest.map (eff idMM ⟨false, true⟩ true)) := by decide +kernel
example : (encodeDoc idMM ⟨false, false⟩ (renderPath true) idForest).bind (decodeDoc idMM ⟨false, false⟩ parsePath)
    = some (idForest.map (eff idMM ⟨false, false⟩ true)) := by decide +kernel
example : tokenOf idMM ⟨false, false⟩ (renderPath true) idForest ⟨0, [("kids".toList, some 0)]⟩ = "k".toList := by decide +kernel

section
open Check

example :
    (∀ r ∈ idForest, WFG idMM (Target idMM true idForest) r) ∧
    (∀ r ∈ idForest, AllRefs (Target idMM true idForest) r) ∧
    (∀ o : Opts, o.uuid = true → ∀ q m, (q, m) ∈ allNodes idMM idForest → UuidTok m.uuid ∧ Word idMM.ws m.uuid) ∧
    (∀ o : Opts, ∀ q m q' m' k, (q, m) ∈ allNodes idMM idForest → (q', m') ∈ allNodes idMM idForest →
      k ∈ keysOf idMM o m → k ∈ keysOf idMM o m' → q = q') := by
  refine ⟨wfg_of_nodes idMM idForest (by decide +kernel), allRefs_of_nodes idMM idForest (by decide +kernel), ?_, ?_⟩
  · intro o _ q m hm
    exact isTok_shape _ _ ((by decide +kernel : ∀ x ∈ allNodes idMM idForest, isTok idMM.ws x.2.uuid = true) _ hm)
  · intro o q m q' m' k hm hm' hk hk'
    exact (by decide +kernel : ∀ sd u, ∀ x ∈ allNodes idMM idForest, ∀ y ∈ allNodes idMM idForest,
      ∀ k ∈ keysOf idMM ⟨sd, u⟩ x.2, k ∈ keysOf idMM ⟨sd, u⟩ y.2 → x.1 = y.1) o.sd o.uuid _ hm _ hm' k hk hk'

end

end XDoc
