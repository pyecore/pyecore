import PyecoreModel.Model.HrefText
/-! `strip` leaves a text alone that neither begins nor ends with a blank (for `C14_href_typed`, `C14_href_blanks`). -/
namespace HrefText

theorem dropWhile_eq_self {α : Type} {p : α → Bool} (u : List α) (h : ∀ c, u.head? = some c → p c = false) :
    u.dropWhile p = u := by
  cases u with
  | nil => rfl
  | cons a t => exact List.dropWhile_cons_of_neg (by simp [h a rfl])

theorem strip_id (u : List Char) (h1 : ∀ c, u.head? = some c → isBlank c = false)
    (h2 : ∀ c, u.getLast? = some c → isBlank c = false) : strip u = u := by
  unfold strip
  rw [dropWhile_eq_self u h1, dropWhile_eq_self u.reverse (by rwa [List.head?_reverse]), List.reverse_reverse]

end HrefText
