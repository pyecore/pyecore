import PyecoreModel.Model.Paths
/-! What `normalize` does to the three stretches of a joined href path (used by `C14_path`): clean segments are pushed,
each `..` pops one, the `.` of an empty relative path is skipped. -/
namespace Paths

theorem foldl_clean (st : List String) (p : Path) (h : Clean p) : p.foldl normStep st = p.reverse ++ st := by
  induction p generalizing st with
  | nil => rfl
  | cons s t ih =>
    obtain ⟨hs, ht⟩ := List.forall_mem_cons.1 h
    simp only [List.foldl_cons]
    have : normStep st s = s :: st := by
      unfold normStep
      simp [hs.1, hs.2.1, hs.2.2]
    rw [this, ih _ ht]; simp

theorem foldl_dotdot (xs st : List String) :
    (List.replicate xs.length "..").foldl normStep (xs ++ st) = st := by
  induction xs with
  | nil => simp
  | cons x t ih =>
    simp only [List.length_cons, List.replicate_succ, List.foldl_cons, List.cons_append]
    have : normStep (x :: (t ++ st)) ".." = t ++ st := by simp [normStep]
    rw [this]; exact ih

theorem take_commonLen (a b : Path) : a.take (commonLen a b) = b.take (commonLen a b) := by
  induction a generalizing b with
  | nil => simp [commonLen]
  | cons x xs ih =>
    cases b with
    | nil => simp [commonLen]
    | cons y ys =>
      simp only [commonLen]
      split
      · rename_i h; subst h; simp [ih ys]
      · simp

theorem foldl_relpath_dot (st : List String) (r : Path) :
    (if r.isEmpty then ["."] else r).foldl normStep st = r.foldl normStep st := by
  cases r <;> simp [normStep]

end Paths
