import PyecoreModel.Model.XmiDoc
import PyecoreModel.Lemmas.PyList
/-! The text of a fragment path reads back as the path: `parsePath (renderPath single p) = some p`. -/
namespace XDoc

theorem digitsOf_isDigit (k : Nat) : ∀ c ∈ digitsOf k, c.isDigit = true :=
  fun _ hc => Nat.isDigit_of_mem_toDigits (by decide) (by decide) hc

def foldDigits (acc : Option Nat) (s : Str) : Option Nat :=
  s.foldl (fun acc c => match acc, digitVal c with
      | some a, some d => some (a * 10 + d)
      | _, _ => none) acc

/-- on digits the fold is core's `Nat.ofDigitChars`, the inverse of `Nat.toDigits` -/
theorem foldDigits_digits (s : Str) (h : ∀ c ∈ s, c.isDigit = true) (a : Nat) :
    foldDigits (some a) s = some (Nat.ofDigitChars 10 s a) := by
  induction s generalizing a with
  | nil => rfl
  | cons c t ih =>
    simp only [foldDigits, List.foldl_cons, digitVal, h c (by simp), if_true, Nat.ofDigitChars_cons, Nat.mul_comm 10]
    exact ih (fun x hx => h x (by simp [hx])) _

theorem natOfDigits_digitsOf (k : Nat) : natOfDigits (digitsOf k) = some k := by
  have h := foldDigits_digits (digitsOf k) (digitsOf_isDigit k) 0
  rw [show Nat.ofDigitChars 10 (digitsOf k) 0 = k from Nat.ofDigitChars_ten_toDigits] at h
  cases hd : digitsOf k with
  | nil => exact absurd hd Nat.toDigits_ne_nil
  -- on a non-empty text `natOfDigits` is by definition the fold from `some 0`
  | cons c cs => rw [hd] at h; exact h

theorem splitOnC_no (c : Char) (w : Str) (h : c ∉ w) : splitOnC c w = [w] := by
  induction w with
  | nil => rfl
  | cons x t ih =>
    have hx : (x == c) = false := by simpa using fun he : x = c => h (by simp [he])
    simp [splitOnC, hx, ih fun hm => h (List.mem_cons_of_mem _ hm)]

theorem splitOnC_append (c : Char) (w rest : Str) (h : c ∉ w) : splitOnC c (w ++ c :: rest) = w :: splitOnC c rest := by
  induction w with
  | nil => simp [splitOnC]
  | cons x t ih =>
    have hx : (x == c) = false := by simpa using fun he : x = c => h (by simp [he])
    simp [splitOnC, hx, ih fun hm => h (List.mem_cons_of_mem _ hm)]

/-- `splitOnC c (w ++ c :: w₁ ++ c :: w₂ …) = [w, w₁, w₂, …]` when `c` occurs in none of them -/
theorem splitOnC_join (c : Char) (ws : List Str) (hws : ∀ w ∈ ws, c ∉ w) (w : Str) (hw : c ∉ w) :
    splitOnC c (w ++ (ws.map (c :: ·)).flatten) = w :: ws := by
  induction ws generalizing w with
  | nil => simpa using splitOnC_no c w hw
  | cons w1 t ih =>
    rw [List.map_cons, List.flatten_cons, List.cons_append, splitOnC_append c w _ hw,
      ih (fun x hx => hws x (by simp [hx])) w1 (hws w1 (by simp))]

/-- the text of one segment after the slash -/
def segStr (s : Str × Option Nat) : Str :=
  '@' :: s.1 ++ (match s.2 with | none => [] | some k => '.' :: digitsOf k)

theorem renderSeg_eq (s : Str × Option Nat) : renderSeg s = '/' :: segStr s := rfl

/-- a feature name that can stand in a fragment path -/
def NameOK (n : Str) : Prop := '/' ∉ n ∧ '.' ∉ n

theorem digit_ne (k : Nat) (c : Char) (hc : c.isDigit = false) : c ∉ digitsOf k := by
  intro h
  have := digitsOf_isDigit k c h
  rw [hc] at this
  cases this

theorem parseSeg_segStr (s : Str × Option Nat) (h : NameOK s.1) : parseSeg (segStr s) = some s := by
  obtain ⟨name, idx⟩ := s
  cases idx with
  | none => simp only [segStr, List.append_nil, parseSeg, splitOnC_no '.' name h.2]
  | some k =>
    simp only [segStr, List.cons_append, parseSeg, splitOnC_append '.' name _ h.2, splitOnC_no '.' _ (digit_ne k '.' (by decide)),
      natOfDigits_digitsOf, Option.map_some]

/-- the characters of a segment's text: `@`, those of the feature name, `.` and digits -/
theorem not_mem_segStr (c : Char) (s : Str × Option Nat) (hc : c ≠ '@' ∧ c ≠ '.' ∧ c.isDigit = false) (hn : c ∉ s.1) :
    c ∉ segStr s := by
  obtain ⟨name, idx⟩ := s
  cases idx with
  | none => simpa [segStr, hc.1] using hn
  | some k => simpa [segStr, hc.1, hc.2.1, digit_ne k c hc.2.2] using hn

theorem segStr_nonempty (s : Str × Option Nat) : (segStr s).isEmpty = false := rfl

theorem mapM_parseSeg (segs : List (Str × Option Nat)) (h : ∀ s ∈ segs, NameOK s.1) :
    ((segs.map segStr).filter fun x => !x.isEmpty).mapM parseSeg = some segs := by
  rw [List.filter_eq_self.mpr (List.forall_mem_map.mpr fun s _ => by rw [segStr_nonempty]; rfl), List.mapM_map,
    Py.mapM_some_of_forall (parseSeg ∘ segStr) id segs fun s hs => parseSeg_segStr s (h s hs), List.map_id]

theorem parse_render (single : Bool) (p : Path) (hn : ∀ s ∈ p.segs, NameOK s.1) (hroot : single = true → p.root = 0) :
    parsePath (renderPath single p) = some p := by
  obtain ⟨root, segs⟩ := p
  -- after the leading slash the text splits at `/` into the root's digits (or nothing) and the segments' texts
  have hsplit : ∀ w, '/' ∉ w → splitOnC '/' (w ++ (segs.map renderSeg).flatten) = w :: segs.map segStr := by
    intro w hw
    rw [show (segs.map renderSeg).flatten = ((segs.map segStr).map ('/' :: ·)).flatten by rw [List.map_map]; rfl]
    exact splitOnC_join '/' _ (List.forall_mem_map.mpr fun s hs => not_mem_segStr '/' s (by decide) (hn s hs).1) w hw
  unfold renderPath parsePath
  cases single with
  | true =>
    obtain rfl : root = 0 := hroot rfl
    have := hsplit [] (by simp)
    simp only [List.nil_append] at this
    simp only [if_true, List.cons_append, List.nil_append, this, List.filter_cons, List.isEmpty_nil, Bool.not_true,
      Bool.false_eq_true, if_false, mapM_parseSeg segs hn, Option.map_some]
  | false =>
    simp only [Bool.false_eq_true, if_false, List.cons_append, hsplit _ (digit_ne root '/' (by decide))]
    cases hds : digitsOf root with
    | nil => exact absurd hds Nat.toDigits_ne_nil
    | cons c cs =>
      have hc : c.isDigit = true := digitsOf_isDigit root c (by rw [hds]; simp)
      have hnat : natOfDigits (c :: cs) = some root := by rw [← hds]; exact natOfDigits_digitsOf root
      simp only [hc, if_true, hnat, Option.getD_some, Option.isNone_some, Bool.and_false, Bool.false_eq_true, if_false,
        mapM_parseSeg segs hn, Option.map_some]

theorem render_head (single : Bool) (p : Path) : ∃ rest, renderPath single p = '/' :: rest := by
  unfold renderPath
  cases single <;> simp

theorem render_no_hash (single : Bool) (p : Path) (h : ∀ s ∈ p.segs, '#' ∉ s.1) : (renderPath single p).contains '#' = false := by
  have hmem : '#' ∉ renderPath single p := by
    unfold renderPath
    intro hm
    rcases List.mem_append.mp hm with h1 | h2
    · have : '#' = '/' ∨ '#' ∈ digitsOf p.root := by cases single <;> simp at h1 <;> simp [h1]
      rcases this with h1 | h1
      · exact absurd h1 (by decide)
      · exact digit_ne p.root '#' (by decide) h1
    · obtain ⟨l, hl, hml⟩ := List.mem_flatten.mp h2
      obtain ⟨s, hs, rfl⟩ := List.mem_map.mp hl
      rw [renderSeg_eq, List.mem_cons] at hml
      rcases hml with h3 | h3
      · exact absurd h3 (by decide)
      · exact not_mem_segStr '#' s (by decide) (h s hs) h3
  simpa using hmem

end XDoc
