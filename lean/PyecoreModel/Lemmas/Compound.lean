import PyecoreModel.Model.Compound
import PyecoreModel.Lemmas.CommandStack
/-! Compound commands (C06): `prepare` is `snap` then `Snap.fix` met by one state (`prepare_snap_fix`); `Cmd.undo` is `can_undo`
then the bare undo (`undo_eq_raw`); `StableCov`, the hypothesis of the compound law, and the law by one induction
(`compound_inverse`); its computable form `stableCovB`; one letter over compounds. -/
namespace Store

/-- the two halves of a command met by the same state: `snap` (what `can_execute` fixes), then `Snap.fix` (the index fixing
    of `do_execute`) -/
def joinPrep (mm : MM) (s : St) (sp : Spec) : Prep :=
  match snap mm s sp with
  | .cannot => .cannot
  | .raises => .raises
  | .ok p =>
    match p.fix mm s with
    | .ok c => .ok c
    | _ => .raises

theorem prepare_snap_fix (mm : MM) (s : St) (sp : Spec) : prepare mm s sp = joinPrep mm s sp := by
  cases sp with
  | set x f v =>
    simp only [prepare, joinPrep, snap]
    split
    · rfl
    · simp only [Snap.fix]
      cases slotVals mm s x f <;> rfl
  | add x f v idx =>
    simp only [prepare, joinPrep, snap]
    split
    · rfl
    · split
      · rfl
      · simp only [Snap.fix]
        cases idx <;> rfl
  | remove x f v idx =>
    simp only [prepare, joinPrep, snap]
    split
    · rfl
    · cases v with
      | none =>
        cases idx with
        | none => simp
        | some i =>
          simp only
          cases hn : Py.normIdx (slotVals mm s x f).length i with
          | none => simp
          | some k =>
            obtain ⟨hk, hlt⟩ := Py.normIdx_some hn
            simp only
            have hget : (slotVals mm s x f)[k]? = some ((slotVals mm s x f)[k]) := List.getElem?_eq_getElem hlt
            rw [hget]
            simp only [Snap.fix, hk]
            have : ¬ ((k : Int) < 0) := by omega
            simp [this, hget]
      | some v =>
        cases idx with
        | none =>
          simp only
          split
          · rfl
          · simp only [Snap.fix]
            cases (slotVals mm s x f).idxOf? v <;> simp
        | some i => simp
  | move x f frm to v =>
    simp only [prepare, joinPrep, snap]
    split
    · rfl
    · cases frm with
      | none =>
        cases v with
        | none => simp
        | some v =>
          simp only [Option.map]
          cases hi : (slotVals mm s x f).idxOf? v with
          | none => simp
          | some k =>
            have hget := Py.idxOf?_getElem hi
            simp only [Snap.fix]
            have : ¬ ((k : Int) < 0) := by omega
            simp [this, hget]
      | some i =>
        cases v with
        | some v => simp
        | none =>
          simp only [Option.bind]
          cases hn : Py.normIdx (slotVals mm s x f).length i with
          | none => simp
          | some k =>
            obtain ⟨hk, hlt⟩ := Py.normIdx_some hn
            have hget : (slotVals mm s x f)[k]? = some ((slotVals mm s x f)[k]) := List.getElem?_eq_getElem hlt
            simp only [hget, Option.map, Snap.fix, hk]
            have : ¬ ((k : Int) < 0) := by omega
            simp [this, hget]

theorem undo_eq_raw (mm : MM) (s : St) (c : Cmd) :
    c.undo mm s = match c.canUndo mm s with
      | some true => c.undoRaw mm s
      | _ => (s, .error .runtimeError) := by
  cases c with
  | set x f v p => rfl
  | add x f v i =>
    simp only [Cmd.undo, Cmd.canUndo, Cmd.undoRaw]
    cases (slotVals mm s x f).contains v <;> simp
  | remove x f v i => rfl
  | move x f v a b =>
    simp only [Cmd.undo, Cmd.canUndo, Cmd.undoRaw]
    cases hg : (slotVals mm s x f)[b]? with
    | none => simp
    | some w =>
      by_cases hw : w = v
      · subst hw
        simp only [bne_self_eq_false, Bool.false_eq_true, if_false, beq_self_eq_true]
        cases hp : (step mm s (.pop x f (b : Int))).2 with
        | error e => rfl
        | ok r =>
          obtain ⟨k, hk, hr⟩ := pop_answer mm s x f b r hp
          rw [Py.normIdx_ofNat (List.getElem?_eq_some_iff.mp hg).1] at hk
          cases hk; rw [← hr, hg]; rfl
      · simp [hw]

/-- an `undo` that succeeded found its `can_undo` true: it is the bare `undo` that `Compound.undo` calls -/
theorem undo_ok_undoRaw (mm : MM) {s s' : St} {c : Cmd} {r : Option PyVal} (h : c.undo mm s = (s', .ok r)) :
    c.undoRaw mm s = (s', .ok r) := by
  rw [undo_eq_raw] at h
  split at h
  · exact h
  · cases h

theorem undoAll_cons_ok (mm : MM) (s : St) (c : Cmd) (t : List Cmd) (r : Option PyVal) (h : (c.undoRaw mm s).2 = .ok r) :
    undoAll mm s (c :: t) = undoAll mm (c.undoRaw mm s).1 t := by
  simp only [undoAll, h]

theorem undoAll_cons_err (mm : MM) (s : St) (c : Cmd) (t : List Cmd) (e : Py.Err) (h : (c.undoRaw mm s).2 = .error e) :
    undoAll mm s (c :: t) = ((c.undoRaw mm s).1, false) := by
  simp only [undoAll, h]

theorem undoAll_append (mm : MM) : ∀ (a b : List Cmd) (s : St),
    undoAll mm s (a ++ b) = if (undoAll mm s a).2 then undoAll mm (undoAll mm s a).1 b else ((undoAll mm s a).1, false)
  | [], b, s => by simp [undoAll]
  | c :: a, b, s => by
    cases h : (c.undoRaw mm s).2 with
    | error e =>
      rw [List.cons_append, undoAll_cons_err mm s c _ e h, undoAll_cons_err mm s c _ e h]
      simp
    | ok r =>
      rw [List.cons_append, undoAll_cons_ok mm s c _ r h, undoAll_cons_ok mm s c _ r h]
      exact undoAll_append mm a b _

theorem redoAll_cons_ok (mm : MM) (s : St) (c : Cmd) (t : List Cmd) (r : Option PyVal) (h : (c.redo mm s).2 = .ok r) :
    redoAll mm s (c :: t) = ((redoAll mm (c.redo mm s).1 t).1, c.after mm s :: (redoAll mm (c.redo mm s).1 t).2.1,
      (redoAll mm (c.redo mm s).1 t).2.2) := by
  simp only [redoAll, h]

/-- the hypotheses of the compound theorem, along the run: when its turn comes, each sub-command would take the snapshot
    it took before the compound (what `can_execute` read has not been changed by the earlier sub-commands), and
    it is a command the single-command theorem covers (no opposite; a contained value is free or already there) -/
def StableCov (mm : MM) : St → List Spec → List Snap → Prop
  | _, [], [] => True
  | s, sp :: t, p :: ps =>
    snap mm s sp = .ok p ∧ Covered mm s sp ∧ (∀ c, p.fix mm s = .ok c → StableCov mm (c.exec mm s).1 t ps)
  | _, _, _ => False

theorem runAll_ok_cons {mm : MM} {s s' : St} {p : Snap} {ps : List Snap} {cs : List Cmd}
    (h : runAll mm s (p :: ps) = .ok s' cs) :
    ∃ c r cs', p.fix mm s = .ok c ∧ (c.exec mm s).2 = .ok r ∧ runAll mm (c.exec mm s).1 ps = .ok s' cs' ∧
      cs = c.after mm s :: cs' := by
  simp only [runAll] at h
  cases hfix : p.fix mm s with
  | raises => simp [hfix] at h
  | corner => simp [hfix] at h
  | ok c =>
    simp only [hfix] at h
    cases hex : (c.exec mm s).2 with
    | error e => simp [hex] at h
    | ok r =>
      simp only [hex] at h
      cases htail : runAll mm (c.exec mm s).1 ps with
      | raised _ => simp [htail] at h
      | corner => simp [htail] at h
      | ok s'' cs' =>
        simp only [htail, Ran.ok.injEq] at h
        obtain ⟨rfl, rfl⟩ := h
        exact ⟨c, r, cs', rfl, hex, htail, rfl⟩

theorem compound_inverse (mm : MM) (hwf : mm.WF) (hwft : mm.WFT) : ∀ (sps : List Spec) (ps : List Snap) (s s' : St)
    (cs : List Cmd), Good mm s → StableCov mm s sps ps → runAll mm s ps = .ok s' cs →
    undoAll mm s' cs.reverse = (s, true) ∧ redoAll mm s cs = (s', cs, true) ∧ Good mm s'
  | [], [], s, s', cs, hg, _, hrun => by
    obtain ⟨rfl, rfl⟩ := hrun
    exact ⟨rfl, rfl, hg⟩
  | [], _ :: _, _, _, _, _, h, _ => by simp [StableCov] at h
  | _ :: _, [], _, _, _, _, h, _ => by simp [StableCov] at h
  | sp :: t, p :: ps, s, s', cs, hg, ⟨hsnap, hcov, hnext⟩, hrun => by
    obtain ⟨c, r, cs', hfix, hex, htail, rfl⟩ := runAll_ok_cons hrun
    have hprep : prepare mm s sp = .ok c := by rw [prepare_snap_fix, joinPrep, hsnap]; simp only [hfix]
    have hg1 : Good mm (c.exec mm s).1 := good_exec mm hwf hwft s hg hprep
    obtain ⟨ihu, ihr, hg'⟩ := compound_inverse mm hwf hwft t ps (c.exec mm s).1 s' cs' hg1 (hnext c hfix) htail
    obtain ⟨⟨r', hundo⟩, hredo⟩ := covered_inverse mm hwf s hg sp hcov c hprep r hex
    refine ⟨?_, ?_, hg'⟩
    · rw [List.reverse_cons, undoAll_append, ihu]
      simp only [if_true, undoAll, undo_ok_undoRaw mm hundo]
    · have h2 : ((c.after mm s).redo mm s).2 = .ok r := by rw [hredo]; exact hex
      rw [redoAll_cons_ok mm s _ _ r h2, hredo, ihr, after_after]

/-- decidable form of `StableCov` -/
def stableCovB (mm : MM) : St → List Spec → List Snap → Bool
  | _, [], [] => true
  | s, sp :: t, p :: ps =>
    decide (snap mm s sp = .ok p) && coveredB mm s sp &&
      (match p.fix mm s with
       | .ok c => stableCovB mm (c.exec mm s).1 t ps
       | _ => true)
  | _, _, _ => false

theorem stableCov_of_B (mm : MM) : ∀ (s : St) (sps : List Spec) (ps : List Snap), stableCovB mm s sps ps = true →
    StableCov mm s sps ps
  | _, [], [], _ => trivial
  | _, [], _ :: _, h => by simp [stableCovB] at h
  | _, _ :: _, [], h => by simp [stableCovB] at h
  | s, sp :: t, p :: ps, h => by
    simp only [stableCovB, Bool.and_eq_true, decide_eq_true_eq] at h
    refine ⟨h.1.1, covered_of_B mm s sp h.1.2, ?_⟩
    intro c hc
    rw [hc] at h
    exact stableCov_of_B mm _ t ps h.2

theorem kstep_undo_ok (mm : MM) {st : List (List Cmd)} {n : Nat} {s s' : St} {cs : List Cmd} (hget : st[n]? = some cs)
    (hcan : canUndoAll mm s' cs = some true) (hu : undoAll mm s' cs.reverse = (s, true)) :
    kstep mm ⟨st, n + 1⟩ s' .undo = (⟨st, n⟩, s, "ok") := by
  simp [kstep, hget, hcan, hu]

theorem kstep_redo_ok (mm : MM) {st : List (List Cmd)} {n : Nat} {s s' : St} {cs : List Cmd} (hget : st[n]? = some cs)
    (hr : redoAll mm s cs = (s', cs, true)) : kstep mm ⟨st, n⟩ s .redo = (⟨st, n + 1⟩, s', "ok") := by
  simp only [kstep, hget, hr, if_true, Py.set_same hget]

end Store
