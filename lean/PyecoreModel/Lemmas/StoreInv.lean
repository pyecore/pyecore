import PyecoreModel.Model.StoreInv
import PyecoreModel.Lemmas.StoreBasic
/-! `Free` (an object nobody owns) and `Frame` (what reference operations leave alone); `unlinkRaw` and `unroot` preserve the
invariants, end by end (`link_mirror` is the symmetry step, shared with `linkRaw`); `Drops`, a sequence of such releases, and
what every such sequence guarantees (`Drops.inv`, `.shrinks`, `.frame`). -/
namespace Store
variable (mm : MM)

theorem isList_false_of_opp (hwf : mm.WF) {f g} (h : (mm.feat f).opp = some g) : (mm.feat f).isList = false := by
  have := hwf.opp_unique f g h; simp [Feature.isList, this]

theorem isList_false_of_cont (hwf : mm.WF) {f} (h : (mm.feat f).cont = true) : (mm.feat f).isList = false := by
  have := (hwf.cont_unique f h).1; simp [Feature.isList, this]

/-- an object nobody owns: no container, root of no resource -/
def Free (s : St) (y : Oid) : Prop := s.cont y = none ∧ s.eres y = none

section
variable {mm} {s s' : St}
theorem Inv.sym (h : Inv mm s) : Sym mm s := h.1
theorem Inv.card (h : Inv mm s) : Card mm s := h.2.1
theorem Inv.own (h : Inv mm s) : Own mm s := h.2.2.1
theorem Inv.res (h : Inv mm s) : ResOK s := h.2.2.2
theorem ResOK.roots (h : ResOK s) : ∀ o r, s.eres o = some r ↔ o ∈ s.rcont r := h.1
theorem ResOK.nodup (h : ResOK s) : ∀ r, (s.rcont r).Nodup := h.2.1
theorem ResOK.contained (h : ResOK s) : ∀ o, s.cont o ≠ none → s.eres o = none := h.2.2
theorem ResOK.not_root (h : ResOK s) {o c} (hc : s.cont o = some c) (r : Rid) : o ∉ s.rcont r := fun hr => by
  have := (h.roots o r).2 hr
  rw [h.contained o (by rw [hc]; simp)] at this; cases this

/-- `Sym`, `Card` and `Own` read the slots and the back-pointers only -/
theorem Inv.of_links (h : Inv mm s) (h1 : s'.rs = s.rs) (h2 : s'.cont = s.cont) (hr : ResOK s') : Inv mm s' := by
  refine ⟨?_, ?_, ?_, hr⟩
  · intro f g hfg x y; rw [h1]; exact h.sym f g hfg x y
  · intro x f; rw [h1]; exact h.card x f
  · intro o p f; rw [h1, h2]; exact h.own o p f

theorem Inv.congr (h : Inv mm s) (h1 : s'.rs = s.rs) (h2 : s'.cont = s.cont) (h3 : s'.eres = s.eres)
    (h4 : s'.rcont = s.rcont) : Inv mm s' :=
  h.of_links h1 h2 ⟨fun o r => by rw [h3, h4]; exact h.res.roots o r, fun r => by rw [h4]; exact h.res.nodup r,
    fun o => by rw [h2, h3]; exact h.res.contained o⟩

theorem Inv.partner (h : Inv mm s) {f g x y} (hopp : (mm.feat f).opp = some g) (hm : (mm.feat g).many = false)
    (hy : y ∈ s.rs x f) : s.rs y g = [x] ∧ ∀ x0, x0 ≠ x → y ∉ s.rs x0 f := by
  have hyx : s.rs y g = [x] := Py.eq_singleton_of_mem ((h.card y g).1 hm) ((h.sym f g hopp x y).1 hy)
  refine ⟨hyx, fun x0 hne hy0 => hne ?_⟩
  have := (h.sym f g hopp x0 y).1 hy0
  rw [hyx] at this
  exact List.mem_singleton.1 this

/-- a contained object that leaves its slot has no owner left: its container was this slot, and what is contained is a
root of nothing -/
theorem Inv.released (h : Inv mm s) {x f y} (hy : y ∈ s.rs x f) (hc : (mm.feat f).cont = true) (l : List Oid) :
    Free (s.putEnd mm x f l y none) y ∧ s.cont y = some (x, f) := by
  have hco : s.cont y = some (x, f) := (h.own y x f).2 ⟨hc, hy⟩
  exact ⟨⟨by simp [hc], by simpa using h.res.contained y (by rw [hco]; simp)⟩, hco⟩
end

theorem Shrinks.refl (s : St) : Shrinks s s := ⟨fun _ _ _ h => h, fun _ => Or.inr rfl, fun _ => Or.inr rfl⟩

theorem Shrinks.trans {s1 s2 s3 : St} (h12 : Shrinks s1 s2) (h23 : Shrinks s2 s3) : Shrinks s1 s3 := by
  refine ⟨fun a f b h => h12.1 a f b (h23.1 a f b h), ?_, ?_⟩
  · intro o
    rcases h23.2.1 o with h | h
    · exact Or.inl h
    · rw [h]; exact h12.2.1 o
  · intro o
    rcases h23.2.2 o with h | h
    · exact Or.inl h
    · rw [h]; exact h12.2.2 o

theorem Shrinks.free {s s' : St} (h : Shrinks s s') {o} (hc : Free s o) : Free s' o := by
  constructor
  · rcases h.2.1 o with h1 | h1
    · exact h1
    · rw [h1]; exact hc.1
  · rcases h.2.2 o with h1 | h1
    · exact h1
    · rw [h1]; exact hc.2

theorem Shrinks.empty {s s' : St} (h : Shrinks s s') {a f} (he : s.rs a f = []) : s'.rs a f = [] :=
  List.eq_nil_iff_forall_not_mem.2 fun b hb => by have := h.1 a f b hb; rw [he] at this; cases this

/-- reference operations leave objects, classes and attribute slots alone -/
def Frame (s s' : St) : Prop := s'.nObj = s.nObj ∧ s'.cls = s.cls ∧ s'.as = s.as ∧ s'.nRes = s.nRes

theorem Frame.as {s s' : St} (h : Frame s s') : s'.as = s.as := h.2.2.1

theorem Frame.refl (s : St) : Frame s s := ⟨rfl, rfl, rfl, rfl⟩
theorem Frame.trans {a b c : St} (h1 : Frame a b) (h2 : Frame b c) : Frame a c :=
  ⟨h2.1.trans h1.1, h2.2.1.trans h1.2.1, h2.2.2.1.trans h1.2.2.1, h2.2.2.2.trans h1.2.2.2⟩

/-- the link `x.f ∋ y`, seen from a slot `a.f'` and seen from the slot `b.g'` at the opposite end -/
theorem link_mirror (hwf : mm.WF) {f' g'} (hfg : (mm.feat f').opp = some g') (x : Oid) (f : Fid) (y a b : Oid) :
    (a = x ∧ f' = f ∧ b = y) ∨ ((mm.feat f).opp = some f' ∧ a = y ∧ b = x) ↔
      (b = x ∧ g' = f ∧ a = y) ∨ ((mm.feat f).opp = some g' ∧ b = y ∧ a = x) := by
  have h1 := hwf.opp_mutual f' g' hfg
  have h2 : ∀ g, (mm.feat f).opp = some g → (mm.feat g).opp = some f := fun g h => (hwf.opp_mutual f g h).1
  grind

theorem unlinkRaw_sym (hwf : mm.WF) (s : St) (hs : Sym mm s) (x f y) : Sym mm (unlinkRaw mm s x f y) := by
  intro f' g' hfg a b
  -- both sides lose the same link
  rw [mem_unlinkRaw mm (isList_false_of_opp mm hwf hfg),
    mem_unlinkRaw mm (isList_false_of_opp mm hwf (hwf.opp_mutual f' g' hfg).1),
    hs f' g' hfg a b, link_mirror mm hwf hfg x f y a b]

/-- `Card` looks at one slot at a time: an end may be written with any list of the right shape -/
theorem putEnd_card (s : St) (hc : Card mm s) {x f l y c} (h1 : (mm.feat f).many = false → l.length ≤ 1)
    (h2 : (mm.feat f).isList = false → l.Nodup) : Card mm (s.putEnd mm x f l y c) := by
  intro a f'
  rw [putEnd_rs]; split
  · rename_i h; obtain ⟨rfl, rfl⟩ := h; exact ⟨h1, h2⟩
  · exact hc a f'

theorem dropEnd_card (s : St) (hc : Card mm s) (x f y) : Card mm (s.dropEnd mm x f y) :=
  putEnd_card mm s hc (fun h => Nat.le_trans rmVal_sublist.length_le ((hc x f).1 h))
    (fun h => rmVal_nodup ((hc x f).2 h))

theorem unlinkRaw_card (s : St) (hc : Card mm s) (x f y) : Card mm (unlinkRaw mm s x f y) :=
  unlinkRaw_of_dropEnd mm (dropEnd_card mm) hc

/-- `Own` too holds end by end: when `f` is a containment, `y`'s back-pointer named `x.f`, so `y` is in no other
containment slot and the cleared back-pointer is right -/
theorem dropEnd_own (hwf : mm.WF) (s : St) (ho : Own mm s) (x f y) (hy : y ∈ s.rs x f) : Own mm (s.dropEnd mm x f y) := by
  intro o p f'
  by_cases hcf : (mm.feat f').cont = true
  case neg =>
    refine ⟨fun h => ?_, fun h => absurd h.1 hcf⟩
    simp only [St.dropEnd, putEnd_cont] at h
    split at h
    · cases h
    · exact absurd ((ho o p f').1 h).1 hcf
  rw [mem_dropEnd mm (isList_false_of_cont mm hwf hcf)]
  simp only [St.dropEnd, putEnd_cont]
  split
  · rename_i h; obtain ⟨rfl, hc⟩ := h
    refine ⟨nofun, fun ⟨_, hm, hne⟩ => absurd ?_ hne⟩
    have := ((ho o p f').2 ⟨hcf, hm⟩).symm.trans ((ho o x f).2 ⟨hc, hy⟩)
    cases this; exact ⟨rfl, rfl, rfl⟩
  · rename_i h
    rw [ho o p f']
    exact ⟨fun ⟨a, b⟩ => ⟨a, b, fun ⟨_, e, e'⟩ => h ⟨e', e ▸ hcf⟩⟩, fun ⟨a, b, _⟩ => ⟨a, b⟩⟩

theorem unlinkRaw_own (hwf : mm.WF) (s : St) (hs : Sym mm s) (ho : Own mm s) (x f y) :
    Own mm (unlinkRaw mm s x f y) := by
  rw [unlinkRaw_eq]
  split
  · rename_i hy
    have h1 := dropEnd_own mm hwf s ho x f y hy
    cases hopp : (mm.feat f).opp with
    | none => exact h1
    | some g =>
      -- the mirror `x ∈ y.g` is still there after the first end went: it sits in another slot
      refine dropEnd_own mm hwf _ h1 y g x ?_
      rw [mem_dropEnd mm (isList_false_of_opp mm hwf (hwf.opp_mutual f g hopp).1)]
      exact ⟨(hs f g hopp x y).1 hy, fun h => (hwf.opp_mutual f g hopp).2 h.2.1.symm⟩
  · exact ho

/-- `ResOK` looks at the back-pointer only: an end may be written when the object that gets a container is a root of nothing -/
theorem putEnd_resOK (s : St) (hr : ResOK s) {x f l y c} (h : (mm.feat f).cont = true → c ≠ none → s.eres y = none) :
    ResOK (s.putEnd mm x f l y c) := by
  refine ⟨fun o r => ?_, fun r => ?_, fun o ho => ?_⟩
  · rw [putEnd_eres, putEnd_rcont]; exact hr.roots o r
  · rw [putEnd_rcont]; exact hr.nodup r
  · rw [putEnd_eres]
    rw [putEnd_cont] at ho
    split at ho
    · rename_i hc; obtain ⟨rfl, hcf⟩ := hc; exact h hcf ho
    · exact hr.contained o ho

theorem unlinkRaw_resOK (s : St) (hr : ResOK s) (x f y) : ResOK (unlinkRaw mm s x f y) :=
  unlinkRaw_of_dropEnd mm (fun s hs _ _ _ => putEnd_resOK mm s hs (fun _ h => absurd rfl h)) hr

theorem unlinkRaw_inv (hwf : mm.WF) (s : St) (h : Inv mm s) (x f y) : Inv mm (unlinkRaw mm s x f y) :=
  ⟨unlinkRaw_sym mm hwf s h.sym x f y, unlinkRaw_card mm s h.card x f y,
   unlinkRaw_own mm hwf s h.sym h.own x f y, unlinkRaw_resOK mm s h.res x f y⟩

theorem dropEnd_shrinks (s : St) (x f y) : Shrinks s (s.dropEnd mm x f y) := by
  refine ⟨fun a f' b => ?_, fun o => ?_, fun o => Or.inr (by simp [St.dropEnd])⟩
  · unfold St.dropEnd; rw [putEnd_rs]; split
    · rename_i h; obtain ⟨rfl, rfl⟩ := h; exact fun hb => rmVal_sublist.subset hb
    · exact id
  · simp only [St.dropEnd, putEnd_cont]; split
    · exact Or.inl rfl
    · exact Or.inr rfl

theorem unlinkRaw_shrinks (s : St) (x f y) : Shrinks s (unlinkRaw mm s x f y) :=
  unlinkRaw_of_dropEnd mm (P := Shrinks s) (fun _ hs _ _ _ => hs.trans (dropEnd_shrinks mm ..)) (Shrinks.refl s)

theorem putEnd_frame (s : St) (x f l y c) : Frame s (s.putEnd mm x f l y c) := ⟨by simp, by simp, by simp, by simp⟩

theorem unlinkRaw_frame (s : St) (x f y) : Frame s (unlinkRaw mm s x f y) :=
  unlinkRaw_of_dropEnd mm (P := Frame s) (fun _ hs _ _ _ => hs.trans (putEnd_frame mm ..)) (Frame.refl s)

/-- `resource.remove(value)` when `value` is a root -/
def unroot (s : St) (y : Oid) : St :=
  match s.eres y with
  | some r => (s.setRcont r ((s.rcont r).erase y)).setEres y none
  | none => s

theorem detach_eq (s : St) (y) :
    detach mm s y = match (unroot s y).cont y with
      | some (p, pf) => unlinkRaw mm (unroot s y) p pf y
      | none => unroot s y := rfl

@[simp] theorem unroot_rs (s : St) (y) : (unroot s y).rs = s.rs := by unfold unroot; split <;> rfl
@[simp] theorem unroot_cont (s : St) (y) : (unroot s y).cont = s.cont := by unfold unroot; split <;> rfl

theorem unroot_eres (s : St) (y o) : (unroot s y).eres o = if o = y then none else s.eres o := by
  unfold unroot; split
  · simp
  · rename_i h; split
    · rename_i e; subst e; exact h
    · rfl

theorem unroot_rcont (s : St) (y r) :
    (unroot s y).rcont r = if s.eres y = some r then (s.rcont r).erase y else s.rcont r := by
  unfold unroot
  cases s.eres y with
  | none => simp
  | some r0 => by_cases e : r = r0 <;> simp [e, eq_comm]

theorem unroot_rcont_mem (s : St) (hr : ResOK s) (y o r) :
    o ∈ (unroot s y).rcont r ↔ o ∈ s.rcont r ∧ o ≠ y := by
  rw [unroot_rcont]; split
  · rw [(hr.nodup r).mem_erase_iff, and_comm]
  · rename_i he
    exact ⟨fun h => ⟨h, by rintro rfl; exact he ((hr.roots o r).2 h)⟩, And.left⟩

theorem unroot_resOK (s : St) (hr : ResOK s) (y) : ResOK (unroot s y) := by
  refine ⟨fun o r => ?_, fun r => ?_, fun o h => ?_⟩
  · rw [unroot_eres, unroot_rcont_mem s hr, ← hr.roots]
    split <;> simp [*]
  · rw [unroot_rcont]; split
    · exact (hr.nodup r).erase y
    · exact hr.nodup r
  · rw [unroot_eres]; split
    · rfl
    · exact hr.contained o (by simpa using h)

theorem unroot_inv (s : St) (h : Inv mm s) (y) : Inv mm (unroot s y) :=
  h.of_links (unroot_rs s y) (unroot_cont s y) (unroot_resOK s h.res y)

theorem unroot_shrinks (s : St) (y) : Shrinks s (unroot s y) := by
  refine ⟨fun a f b h => by simpa using h, fun o => Or.inr (by simp), ?_⟩
  intro o; rw [unroot_eres]; split
  · exact Or.inl rfl
  · exact Or.inr rfl

theorem unroot_frame (s : St) (y) : Frame s (unroot s y) := by
  unfold unroot; split <;> exact ⟨rfl, rfl, rfl, rfl⟩

/-! ### releasing links and roots

Everything a mutator does before it writes a new link — and all that `clear`, `remove`, `pop`, `delete()` ever do — is a
sequence of `unlinkRaw` and `unroot`.  What such a sequence guarantees is proved here once, by induction on it. -/

inductive Drops : St → St → Prop
  | refl (s) : Drops s s
  | unlink {s s'} (x f y) : Drops s s' → Drops s (unlinkRaw mm s' x f y)
  | unroot {s s'} (y) : Drops s s' → Drops s (unroot s' y)

variable {mm}

theorem Drops.trans {s1 s2 s3 : St} (h12 : Drops mm s1 s2) (h23 : Drops mm s2 s3) : Drops mm s1 s3 := by
  induction h23 with
  | refl => exact h12
  | unlink x f y _ ih => exact .unlink x f y ih
  | unroot y _ ih => exact .unroot y ih

theorem Drops.foldl {β : Type} {g : St → β → St} (hg : ∀ s b, Drops mm s (g s b)) (l : List β) (s : St) :
    Drops mm s (l.foldl g s) :=
  List.foldlRecOn l g (.refl s) fun s' h b _ => h.trans (hg s' b)

theorem Drops.keeps {P : St → Prop} {s s' : St} (h : Drops mm s s') (hu : ∀ s, P s → ∀ x f y, P (unlinkRaw mm s x f y))
    (hr : ∀ s, P s → ∀ y, P (Store.unroot s y)) (hs : P s) : P s' := by
  induction h with
  | refl => exact hs
  | unlink x f y _ ih => exact hu _ ih x f y
  | unroot y _ ih => exact hr _ ih y

theorem Drops.inv {s s' : St} (h : Drops mm s s') (hwf : mm.WF) (hs : Inv mm s) : Inv mm s' :=
  h.keeps (unlinkRaw_inv mm hwf) (unroot_inv mm) hs

theorem Drops.shrinks {s s' : St} (h : Drops mm s s') : Shrinks s s' :=
  h.keeps (fun _ hs x f y => hs.trans (unlinkRaw_shrinks mm _ x f y)) (fun _ hs y => hs.trans (unroot_shrinks _ y))
    (Shrinks.refl s)

theorem Drops.frame {s s' : St} (h : Drops mm s s') : Frame s s' :=
  h.keeps (fun _ hs x f y => hs.trans (unlinkRaw_frame mm _ x f y)) (fun _ hs y => hs.trans (unroot_frame _ y))
    (Frame.refl s)

variable (mm)

theorem unlinkHead_drops (s : St) (x f) :
    Drops mm s (match s.rs x f with | y0 :: _ => unlinkRaw mm s x f y0 | [] => s) := by
  split
  · exact .unlink _ _ _ (.refl s)
  · exact .refl s

theorem detach_drops (s : St) (y) : Drops mm s (detach mm s y) := by
  rw [detach_eq]
  split
  · exact .unlink _ _ _ (.unroot y (.refl s))
  · exact .unroot y (.refl s)

theorem detach_free (s : St) (h : Inv mm s) (y) : Free (detach mm s y) y := by
  rw [detach_eq]
  have he : (unroot s y).eres y = none := by rw [unroot_eres, if_pos rfl]
  cases hc : (unroot s y).cont y with
  | none => exact ⟨hc, he⟩
  | some pf =>
    -- the back-pointer names a containment slot that holds `y`: releasing that link clears it
    have hown := ((unroot_inv mm s h y).own y pf.1 pf.2).1 hc
    exact ⟨by rw [unlinkRaw_cont, if_pos ⟨hown.2, Or.inl ⟨rfl, hown.1⟩⟩], by simpa using he⟩

end Store
