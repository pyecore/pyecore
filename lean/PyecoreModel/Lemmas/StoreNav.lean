import PyecoreModel.Model.StoreNav
import PyecoreModel.Lemmas.StoreTyped
/-! Navigation: the segments of an object's fragment lead from the top of its container chain back to it (C11). -/
namespace Store
variable (mm : MM)

theorem navigate_append (s : St) (o : Oid) (p q : List Seg) :
    navigate mm s o (p ++ q) = (navigate mm s o p).bind (fun m => navigate mm s m q) := by
  induction p generalizing o with
  | nil => simp [navigate]
  | cons h t ih =>
    obtain ⟨f, i⟩ := h
    cases i with
    | none =>
      simp only [List.cons_append, navigate]
      split
      · simp
      · split
        · exact ih _
        · simp
    | some i =>
      simp only [List.cons_append, navigate]
      split
      · exact ih _
      · simp

theorem navigate_fragSegs (s : St) (h : Inv mm s) (n : Nat) (o : Oid) (hroot : s.cont (eRoot s n o) = none) :
    navigate mm s (eRoot s n o) (fragSegs mm s n o) = some o := by
  induction n generalizing o with
  | zero => simp [eRoot, fragSegs, navigate]
  | succ n ih =>
    simp only [eRoot, fragSegs] at hroot ⊢
    cases hc : s.cont o with
    | none => simp [navigate]
    | some pf =>
      obtain ⟨p, f⟩ := pf
      simp only [hc] at hroot ⊢
      rw [navigate_append, ih p hroot]
      simp only [Option.bind_some]
      have hown := (h.own o p f).1 hc
      by_cases hm : (mm.feat f).many = true
      · simp only [hm, if_true, navigate]
        have hlt : (s.rs p f).idxOf o < (s.rs p f).length := List.idxOf_lt_length_of_mem hown.2
        rw [List.getElem?_eq_getElem hlt]
        simp
      · have hm' : (mm.feat f).many = false := by simpa using hm
        simp only [hm', Bool.false_eq_true, if_false, navigate]
        have : s.rs p f = [o] := Py.eq_singleton_of_mem ((h.card p f).1 hm') hown.2
        simp [this]

theorem root_lookup (s : St) (hr : ResOK s) (t : Oid) (r : Rid) (he : s.eres t = some r) :
    (s.rcont r)[(fragRoot s t).getD 0]? = some t := by
  have hmem : t ∈ s.rcont r := (hr.roots t r).1 he
  unfold fragRoot
  simp only [he]
  split
  · rename_i hlen
    simp [Py.eq_singleton_of_mem (Nat.le_of_eq hlen) hmem]
  · simp only [Option.getD_some]
    have hlt : (s.rcont r).idxOf t < (s.rcont r).length := List.idxOf_lt_length_of_mem hmem
    rw [List.getElem?_eq_getElem hlt]; simp

end Store
