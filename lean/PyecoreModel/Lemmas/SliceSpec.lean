import PyecoreModel.Model.PyList
import PyecoreModel.Model.Notif
/-! The position predicate of extended slices against CPython's slice specification.  `Model/PyList.lean` states `slice(a, b, k).indices(n)` as CPython does (`sliceBounds`, `slicePositions`, `pyDelSlice`; tied
to the implementation by the `delslice` correspondence of C04); `Model/Notif.lean` describes what `EList.__delitem__` /
`__setitem__` do on an extended slice through the predicate `inExt` (tied by the `delslice3` / `setslice3`
correspondence of C05).  Here `slicePositions` is computed for a positive step (`slicePositions_pos`) and the rest of
`pickAt` written as a filter; `C05_ext_positions_spec` and `C05_ext_del_spec` (Properties/C05.lean) conclude that the two
descriptions are the same positions. -/
namespace Py

/-- a walk with a positive step visits `i0, i0 + k, …` while below the bound -/
theorem go_pos (kk s : Nat) (hk : 0 < kk) (fuel i0 : Nat) (acc : List Nat) :
    slicePositions.go (kk : Int) (s : Int) fuel (i0 : Int) acc
      = acc.reverse ++ (List.range' i0 fuel kk).filter (· < s) := by
  induction fuel generalizing i0 acc with
  | zero => simp [slicePositions.go]
  | succ f ih =>
    unfold slicePositions.go
    by_cases hlt : i0 < s
    · rw [if_pos (Or.inl ⟨by omega, by omega⟩), show (i0 : Int) + kk = ((i0 + kk : Nat) : Int) by simp, ih]
      simp [List.range'_succ, hlt]
    · rw [if_neg (by omega), List.filter_eq_nil_iff.2, List.append_nil]
      intro j hj
      obtain ⟨t, _, rfl⟩ := List.mem_range'.1 hj
      simp; omega

theorem sliceBounds_pos (n a b kk : Nat) (hk : 0 < kk) :
    sliceBounds n (some (a : Int)) (some (b : Int)) (kk : Int) = (((min a n : Nat) : Int), ((min b n : Nat) : Int)) := by
  unfold sliceBounds
  have clamp (v : Nat) : (if (v : Int) > n then (n : Int) else v) = ((min v n : Nat) : Int) := by omega
  rw [if_pos (show (kk : Int) > 0 by omega)]
  simp only [if_neg (show ¬ (a : Int) < 0 by omega), if_neg (show ¬ (b : Int) < 0 by omega), clamp]

theorem slicePositions_pos (n a b kk : Nat) (hk : 0 < kk) :
    slicePositions n (some (a : Int)) (some (b : Int)) (kk : Int)
      = (List.range' (min a n) n kk).filter (· < min b n) := by
  unfold slicePositions
  rw [sliceBounds_pos n a b kk hk]
  exact go_pos kk _ hk n _ []

variable {α : Type}

theorem pickAt_rest_filter (p : Nat → Bool) (l : List α) (i : Nat) :
    (pickAt p i l).2 = ((l.zipIdx i).filter (fun x => !p x.2)).map (·.1) := by
  induction l generalizing i with
  | nil => rfl
  | cons x xs ih =>
    rw [pickAt, List.zipIdx_cons, List.filter_cons]
    cases p i <;> simp [ih (i + 1)]

end Py
