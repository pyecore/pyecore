import PyecoreModel.Model.SetOps
/-!
Every history that uses the set mutators reaches a state that a history over the public calls alone reaches:
whatever is proved of `Store.run` for all histories holds of `Store.runAny`.
-/
namespace Store

/-- `s'` is reached from `s` by public calls -/
def Reaches (mm : MM) (s s' : St) : Prop := ∃ ops : List Op, s' = ops.foldl (fun s op => (step mm s op).1) s

theorem Reaches.refl {mm : MM} {s : St} : Reaches mm s s := ⟨[], rfl⟩

theorem Reaches.trans {mm : MM} {a b c : St} (h1 : Reaches mm a b) (h2 : Reaches mm b c) : Reaches mm a c := by
  obtain ⟨p, rfl⟩ := h1
  obtain ⟨q, rfl⟩ := h2
  exact ⟨p ++ q, (List.foldl_append ..).symm⟩

theorem Reaches.step (mm : MM) (s : St) (op : Op) : Reaches mm s (step mm s op).1 := ⟨[op], rfl⟩

/-- a step that reaches its state, followed when it returns by a continuation that does: the loops of `Model/SetOps.lean` -/
theorem Reaches.andThen {mm : MM} {s : St} {p : St × Res} (h : Reaches mm s p.1) {k : St → St × Res}
    (hk : ∀ s', Reaches mm s' (k s').1) :
    Reaches mm s (match p with | (s', .ok _) => k s' | (s', .error e) => (s', .error e)).1 := by
  obtain ⟨s', r⟩ := p
  cases r with
  | ok v => exact h.trans (hk s')
  | error e => exact h

theorem runOps_flat (mm : MM) (s : St) (ops : List Op) : Reaches mm s (runOps mm s ops).1 := by
  induction ops generalizing s with
  | nil => exact .refl
  | cons op ops ih => exact (Reaches.step mm s op).andThen ih

theorem runOps_guarded (mm : MM) (s : St) {c : Prop} [Decidable c] {e : Py.Err} {ops : List Op} :
    Reaches mm s (if c then (s, .error e) else runOps mm s ops).1 := by
  split
  · exact .refl
  · exact runOps_flat mm s ops

theorem discardStep_flat (mm : MM) (s : St) (x f v) : Reaches mm s (discardStep mm s x f v).1 := by
  unfold discardStep
  split
  · exact runOps_flat mm s _
  · exact .refl

theorem diffLoop_flat (mm : MM) (x f) (s : St) (vs : List PyVal) : Reaches mm s (diffLoop mm x f s vs).1 := by
  induction vs generalizing s with
  | nil => exact .refl
  | cons v vs ih => exact (discardStep_flat mm s x f v).andThen ih

theorem setStep_flat (mm : MM) (s : St) (o : SetOp) : Reaches mm s (setStep mm s o).1 := by
  unfold setStep
  split
  · exact .refl
  · cases o with
    | discard x f v => exact discardStep_flat mm s x f v
    | diffUpd x f vs => exact diffLoop_flat mm x f s vs
    | interUpd x f vs => exact runOps_flat mm s _
    | symUpd x f vs => exact runOps_guarded mm s
    | setSlice x f a b vs =>
      simp only
      split
      · exact .refl
      · exact runOps_guarded mm s
    | imul x f n => exact runOps_guarded mm s

theorem stepAny_flat (mm : MM) (s : St) (a : Op ⊕ SetOp) : Reaches mm s (stepAny mm s a).1 := by
  cases a with
  | inl op => exact .step mm s op
  | inr o => exact setStep_flat mm s o

theorem runAny_flat (mm : MM) (w : List (Op ⊕ SetOp)) : ∃ ops : List Op, runAny mm w = run mm ops :=
  List.foldlRecOn (motive := Reaches mm init) w _ .refl fun s hs a _ => hs.trans (stepAny_flat mm s a)

end Store
