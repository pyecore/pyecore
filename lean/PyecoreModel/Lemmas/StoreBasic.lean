import PyecoreModel.Model.Store
import PyecoreModel.Lemmas.PyList
/-! The setters of the Store; the list operations of a slot (`rmVal`, `addVal`, `appendVal`) and `Edits`, what an operation
makes of a collection; the link-level primitives seen end by end: `St.putEnd` writes one end of a link (the slot, and the
back-pointer when the feature is a containment), `St.dropEnd` releases one, and `unlinkRaw` is `dropEnd` once, or twice when
the feature has an opposite.  Everything else is propositional reasoning on top of these (DESIGN 3.3). -/

namespace Store

@[simp] theorem setRs_rs (s : St) (x f l x' f') :
    (s.setRs x f l).rs x' f' = if x' = x ∧ f' = f then l else s.rs x' f' := rfl
@[simp] theorem setRs_cont (s : St) (x f l) : (s.setRs x f l).cont = s.cont := rfl
@[simp] theorem setRs_eres (s : St) (x f l) : (s.setRs x f l).eres = s.eres := rfl
@[simp] theorem setRs_rcont (s : St) (x f l) : (s.setRs x f l).rcont = s.rcont := rfl
@[simp] theorem setRs_as (s : St) (x f l) : (s.setRs x f l).as = s.as := rfl
@[simp] theorem setRs_nObj (s : St) (x f l) : (s.setRs x f l).nObj = s.nObj := rfl
@[simp] theorem setRs_cls (s : St) (x f l) : (s.setRs x f l).cls = s.cls := rfl
@[simp] theorem setRs_nRes (s : St) (x f l) : (s.setRs x f l).nRes = s.nRes := rfl
@[simp] theorem setCont_rs (s : St) (o c) : (s.setCont o c).rs = s.rs := rfl
@[simp] theorem setCont_cont (s : St) (o c o') :
    (s.setCont o c).cont o' = if o' = o then c else s.cont o' := rfl
@[simp] theorem setCont_eres (s : St) (o c) : (s.setCont o c).eres = s.eres := rfl
@[simp] theorem setCont_rcont (s : St) (o c) : (s.setCont o c).rcont = s.rcont := rfl
@[simp] theorem setCont_as (s : St) (o c) : (s.setCont o c).as = s.as := rfl
@[simp] theorem setCont_nObj (s : St) (o c) : (s.setCont o c).nObj = s.nObj := rfl
@[simp] theorem setCont_cls (s : St) (o c) : (s.setCont o c).cls = s.cls := rfl
@[simp] theorem setCont_nRes (s : St) (o c) : (s.setCont o c).nRes = s.nRes := rfl
@[simp] theorem setEres_rs (s : St) (o r) : (s.setEres o r).rs = s.rs := rfl
@[simp] theorem setEres_cont (s : St) (o r) : (s.setEres o r).cont = s.cont := rfl
@[simp] theorem setEres_eres (s : St) (o r o') :
    (s.setEres o r).eres o' = if o' = o then r else s.eres o' := rfl
@[simp] theorem setEres_rcont (s : St) (o r) : (s.setEres o r).rcont = s.rcont := rfl
@[simp] theorem setEres_as (s : St) (o r) : (s.setEres o r).as = s.as := rfl
@[simp] theorem setEres_nObj (s : St) (o r) : (s.setEres o r).nObj = s.nObj := rfl
@[simp] theorem setEres_cls (s : St) (o r) : (s.setEres o r).cls = s.cls := rfl
@[simp] theorem setEres_nRes (s : St) (o r) : (s.setEres o r).nRes = s.nRes := rfl
@[simp] theorem setRcont_rs (s : St) (r l) : (s.setRcont r l).rs = s.rs := rfl
@[simp] theorem setRcont_cont (s : St) (r l) : (s.setRcont r l).cont = s.cont := rfl
@[simp] theorem setRcont_eres (s : St) (r l) : (s.setRcont r l).eres = s.eres := rfl
@[simp] theorem setRcont_rcont (s : St) (r l r') :
    (s.setRcont r l).rcont r' = if r' = r then l else s.rcont r' := rfl
@[simp] theorem setRcont_as (s : St) (r l) : (s.setRcont r l).as = s.as := rfl
@[simp] theorem setRcont_nObj (s : St) (r l) : (s.setRcont r l).nObj = s.nObj := rfl
@[simp] theorem setRcont_cls (s : St) (r l) : (s.setRcont r l).cls = s.cls := rfl
@[simp] theorem setRcont_nRes (s : St) (r l) : (s.setRcont r l).nRes = s.nRes := rfl
@[simp] theorem setAs_as (s : St) (x f l x' f') :
    (s.setAs x f l).as x' f' = if x' = x ∧ f' = f then l else s.as x' f' := rfl

theorem setAs_as_same (s : St) (x : Oid) (f : Fid) (l : List PyVal) : (s.setAs x f l).as x f = l := by
  rw [setAs_as, if_pos ⟨rfl, rfl⟩]

@[simp] theorem hasFeat_setAs (mm : MM) (s : St) (x f l a g) : hasFeat mm (s.setAs x f l) a g = hasFeat mm s a g := rfl
@[simp] theorem conforms_setAs (mm : MM) (s : St) (x f l g v) : conforms mm (s.setAs x f l) g v = conforms mm s g v := by
  cases v <;> rfl
@[simp] theorem hasFeat_setRs (mm : MM) (s : St) (x f l a g) : hasFeat mm (s.setRs x f l) a g = hasFeat mm s a g := rfl
@[simp] theorem conforms_setRs (mm : MM) (s : St) (x f l g v) : conforms mm (s.setRs x f l) g v = conforms mm s g v := by
  cases v <;> rfl
@[simp] theorem hasFeat_setCont (mm : MM) (s : St) (y c a g) : hasFeat mm (s.setCont y c) a g = hasFeat mm s a g := rfl
@[simp] theorem conforms_setCont (mm : MM) (s : St) (y c g v) : conforms mm (s.setCont y c) g v = conforms mm s g v := by
  cases v <;> rfl

theorem setAs_self (s : St) (x : Oid) (f : Fid) : s.setAs x f (s.as x f) = s := by
  unfold St.setAs
  cases s
  congr 1
  funext x' f'
  by_cases h : x' = x ∧ f' = f <;> simp [h]

theorem setAs_setAs (s : St) (x : Oid) (f : Fid) (l l' : List PyVal) : (s.setAs x f l).setAs x f l' = s.setAs x f l' := by
  unfold St.setAs
  congr 1
  funext x' f'
  by_cases h : x' = x ∧ f' = f <;> simp [h]

theorem setRs_setRs (s : St) (x : Oid) (f : Fid) (l l' : List Oid) : (s.setRs x f l).setRs x f l' = s.setRs x f l' := by
  unfold St.setRs
  congr 1
  funext x' f'
  by_cases h : x' = x ∧ f' = f <;> simp [h]

theorem setRs_self (s : St) (x : Oid) (f : Fid) : s.setRs x f (s.rs x f) = s := by
  unfold St.setRs
  cases s
  congr 1
  funext x' f'
  by_cases h : x' = x ∧ f' = f <;> simp [h]

theorem setCont_setRs (s : St) (y : Oid) (c : Option (Oid × Fid)) (x : Oid) (f : Fid) (l : List Oid) :
    (s.setCont y c).setRs x f l = (s.setRs x f l).setCont y c := rfl

theorem setCont_setCont (s : St) (y : Oid) (c c' : Option (Oid × Fid)) : (s.setCont y c).setCont y c' = s.setCont y c' := by
  unfold St.setCont
  congr 1
  funext o
  by_cases h : o = y <;> simp [h]

theorem setCont_self (s : St) (y : Oid) (c : Option (Oid × Fid)) (h : s.cont y = c) : s.setCont y c = s := by
  unfold St.setCont
  cases s
  congr 1
  funext o
  by_cases ho : o = y
  · subst ho; simp [← h]
  · simp [ho]

theorem setCont_comm (s : St) (y z : Oid) (c d : Option (Oid × Fid)) (h : y ≠ z) :
    (s.setCont y c).setCont z d = (s.setCont z d).setCont y c := by
  unfold St.setCont
  congr 1
  funext o
  by_cases ho : o = y
  · subst ho; simp [h]
  · simp [ho]

section
variable {α : Type} [DecidableEq α]

theorem mem_rmVal_set (l : List α) (y b : α) : b ∈ rmVal false l y ↔ b ∈ l ∧ b ≠ y := by
  simp [rmVal]

theorem rmVal_sublist {isList : Bool} {l : List α} {y : α} : (rmVal isList l y).Sublist l := by
  unfold rmVal; split
  · exact List.erase_sublist
  · exact List.filter_sublist

theorem rmVal_nodup {isList : Bool} {l : List α} {y : α} (h : l.Nodup) : (rmVal isList l y).Nodup :=
  h.sublist rmVal_sublist

theorem rmVal_eq_filter (isList : Bool) (l : List α) (y : α) (hn : l.Nodup) :
    rmVal isList l y = l.filter (fun b => decide (b ≠ y)) := by
  unfold rmVal; split
  · exact (Py.filter_ne_eq_erase hn).symm
  · rfl

theorem mem_addVal {isList : Bool} {l : List α} {y b : α} {pos : Int} :
    b ∈ addVal isList l y pos ↔ b ∈ l ∨ b = y := by
  unfold addVal
  split
  · rename_i h
    simp only [Bool.and_eq_true, Bool.not_eq_true', List.contains_iff_mem] at h
    exact ⟨Or.inl, fun hb => hb.elim id (fun e => e ▸ h.2)⟩
  · rw [Py.pyInsert, Py.mem_insertAt]; exact Or.comm

theorem addVal_fresh (b : Bool) (l : List α) (v : α) (pos : Int) (h : b = false → v ∉ l) :
    addVal b l v pos = Py.pyInsert l pos v := by
  unfold addVal
  cases b with
  | true => rfl
  | false => simp [h rfl]

theorem addVal_nodup (l : List α) (y : α) (pos : Int) (h : l.Nodup) : (addVal false l y pos).Nodup := by
  unfold addVal
  split
  · exact h
  · rename_i hc
    exact Py.nodup_insertAt h (by simpa using hc) _

theorem appendVal_eq_addVal (isList : Bool) (l : List α) (y : α) : appendVal isList l y = addVal isList l y l.length := by
  unfold appendVal addVal
  rw [Py.pyInsert_nat (Nat.le_refl _)]
  simp [Py.insertAt]

theorem mem_appendVal (isList : Bool) (l : List α) (y b : α) :
    b ∈ appendVal isList l y ↔ b ∈ l ∨ b = y := by
  rw [appendVal_eq_addVal]; exact mem_addVal

theorem appendVal_nodup (l : List α) (y : α) (h : l.Nodup) : (appendVal false l y).Nodup := by
  rw [appendVal_eq_addVal]; exact addVal_nodup l y _ h

/-- What an operation makes of a collection: elements leave, values among `vs` come in the way the collection takes them
(a set-like one ignores what it holds already), and a list-like collection may be rewritten at will with what it holds and
values among `vs`. -/
inductive Edits (isList : Bool) (vs : List α) : List α → List α → Prop
  | refl (l) : Edits isList vs l l
  | sub {l l' l''} : Edits isList vs l l' → l''.Sublist l' → Edits isList vs l l''
  | add {l l'} (v pos) : v ∈ vs → Edits isList vs l l' → Edits isList vs l (addVal isList l' v pos)
  | setList {l l'} (l'') : isList = true → (∀ b, b ∈ l'' → b ∈ l' ∨ b ∈ vs) → Edits isList vs l l' → Edits isList vs l l''

theorem Edits.nil {isList : Bool} {vs l : List α} : Edits isList vs l [] := .sub (.refl l) (List.nil_sublist l)

theorem Edits.single {isList : Bool} {vs l : List α} {v : α} (hv : v ∈ vs) : Edits isList vs l [v] := by
  have := Edits.add (isList := isList) v 0 hv (.nil (l := l))
  simpa [addVal, Py.pyInsert, Py.insertAt] using this

theorem Edits.extend {isList : Bool} {vs l l' : List α} (ws : List α) (hws : ∀ v, v ∈ ws → v ∈ vs)
    (h : Edits isList vs l l') : Edits isList vs l (ws.foldl (appendVal isList) l') := by
  induction ws generalizing l' with
  | nil => exact h
  | cons w t ih =>
    rw [List.foldl_cons, appendVal_eq_addVal]
    exact ih (fun v hv => hws v (List.mem_cons_of_mem _ hv)) (.add w _ (hws w List.mem_cons_self) h)

theorem Edits.mem {isList : Bool} {vs l l' : List α} (h : Edits isList vs l l') : ∀ b, b ∈ l' → b ∈ l ∨ b ∈ vs := by
  induction h with
  | refl => exact fun _ hb => Or.inl hb
  | sub _ hs ih => exact fun b hb => ih b (hs.subset hb)
  | add v pos hv _ ih =>
    intro b hb
    rcases mem_addVal.1 hb with h | rfl
    · exact ih b h
    · exact Or.inr hv
  | setList l'' _ hsub _ ih =>
    intro b hb
    rcases hsub b hb with h | h
    · exact ih b h
    · exact Or.inr h

theorem Edits.nodup {vs l l' : List α} (h : Edits false vs l l') (hn : l.Nodup) : l'.Nodup := by
  induction h with
  | refl => exact hn
  | sub _ hs ih => exact ih.sublist hs
  | add v pos _ _ ih => exact addVal_nodup _ v pos ih
  | setList _ hl => cases hl
end

variable (mm : MM)

/-- One end of a link written: the slot `x.f`, and the back-pointer of `y` when `f` is a containment. -/
def St.putEnd (s : St) (x : Oid) (f : Fid) (l : List Oid) (y : Oid) (c : Option (Oid × Fid)) : St :=
  if (mm.feat f).cont then (s.setRs x f l).setCont y c else s.setRs x f l

@[simp] theorem putEnd_rs (s : St) (x f l y c a f') :
    (s.putEnd mm x f l y c).rs a f' = if a = x ∧ f' = f then l else s.rs a f' := by
  unfold St.putEnd; split <;> rfl
@[simp] theorem putEnd_cont (s : St) (x f l y c o) :
    (s.putEnd mm x f l y c).cont o = if o = y ∧ (mm.feat f).cont = true then c else s.cont o := by
  unfold St.putEnd; split <;> simp [*]
@[simp] theorem putEnd_eres (s : St) (x f l y c) : (s.putEnd mm x f l y c).eres = s.eres := by
  unfold St.putEnd; split <;> rfl
@[simp] theorem putEnd_rcont (s : St) (x f l y c) : (s.putEnd mm x f l y c).rcont = s.rcont := by
  unfold St.putEnd; split <;> rfl
@[simp] theorem putEnd_as (s : St) (x f l y c) : (s.putEnd mm x f l y c).as = s.as := by
  unfold St.putEnd; split <;> rfl
@[simp] theorem putEnd_nObj (s : St) (x f l y c) : (s.putEnd mm x f l y c).nObj = s.nObj := by
  unfold St.putEnd; split <;> rfl
@[simp] theorem putEnd_cls (s : St) (x f l y c) : (s.putEnd mm x f l y c).cls = s.cls := by
  unfold St.putEnd; split <;> rfl
@[simp] theorem putEnd_nRes (s : St) (x f l y c) : (s.putEnd mm x f l y c).nRes = s.nRes := by
  unfold St.putEnd; split <;> rfl

theorem putEnd_putEnd (s : St) (x f l l' y c c') :
    (s.putEnd mm x f l y c).putEnd mm x f l' y c' = s.putEnd mm x f l' y c' := by
  unfold St.putEnd
  split
  · rw [setCont_setRs, setRs_setRs, setCont_setCont]
  · rw [setRs_setRs]

theorem putEnd_self (s : St) (x f y c) (h : (mm.feat f).cont = true → s.cont y = c) :
    s.putEnd mm x f (s.rs x f) y c = s := by
  unfold St.putEnd
  split
  · rename_i hc; rw [setRs_self, setCont_self s y c (h hc)]
  · rw [setRs_self]

/-- two writes of the same end: the later list stands, the two back-pointer writes commute -/
theorem putEnd_comm (s : St) (x f l l' y y' c c') (h : y ≠ y') :
    (s.putEnd mm x f l y c).putEnd mm x f l' y' c' = (s.putEnd mm x f l' y' c').putEnd mm x f l' y c := by
  unfold St.putEnd
  split
  · rw [setCont_setRs, setRs_setRs, setCont_setRs, setRs_setRs, setCont_comm _ _ _ _ _ h]
  · rw [setRs_setRs, setRs_setRs]

@[simp] theorem hasFeat_putEnd (s : St) (x f l y c a g) : hasFeat mm (s.putEnd mm x f l y c) a g = hasFeat mm s a g := by
  simp [hasFeat]
@[simp] theorem conforms_putEnd (s : St) (x f l y c g v) : conforms mm (s.putEnd mm x f l y c) g v = conforms mm s g v := by
  cases v <;> simp [conforms]

/-- One end of a link released: `y` leaves `x.f`, and loses its back-pointer when `f` is a containment. -/
def St.dropEnd (s : St) (x : Oid) (f : Fid) (y : Oid) : St :=
  s.putEnd mm x f (rmVal (mm.feat f).isList (s.rs x f) y) y none

/-- membership after `dropEnd` in any slot that is not list-like (a list-like one loses a single occurrence) -/
theorem mem_dropEnd {s : St} {x f y a f' b} (hf' : (mm.feat f').isList = false) :
    b ∈ (s.dropEnd mm x f y).rs a f' ↔ b ∈ s.rs a f' ∧ ¬ (a = x ∧ f' = f ∧ b = y) := by
  unfold St.dropEnd; rw [putEnd_rs]; split
  · rename_i h; obtain ⟨rfl, rfl⟩ := h; rw [hf', mem_rmVal_set]; simp
  · rename_i h; exact ⟨fun hb => ⟨hb, fun h' => h ⟨h'.1, h'.2.1⟩⟩, fun hb => hb.1⟩

theorem unlinkRaw_absent (s : St) (x f y) (h : y ∉ s.rs x f) : unlinkRaw mm s x f y = s := by
  simp [unlinkRaw, h]

theorem unlinkRaw_eq (s : St) (x f y) :
    unlinkRaw mm s x f y =
      if y ∈ s.rs x f then
        match (mm.feat f).opp with
        | none => s.dropEnd mm x f y
        | some g => (s.dropEnd mm x f y).dropEnd mm y g x
      else s := by
  rfl

theorem unlinkRaw_of_dropEnd {P : St → Prop} (h : ∀ s, P s → ∀ x f y, P (s.dropEnd mm x f y)) {s : St} (hs : P s) {x f y} :
    P (unlinkRaw mm s x f y) := by
  rw [unlinkRaw_eq]
  split
  · split
    · exact h _ hs _ _ _
    · exact h _ (h _ hs _ _ _) _ _ _
  · exact hs

@[simp] theorem unlinkRaw_eres (s : St) (x f y) : (unlinkRaw mm s x f y).eres = s.eres := by
  rw [unlinkRaw_eq]; split <;> (try split) <;> simp [St.dropEnd]
@[simp] theorem unlinkRaw_rcont (s : St) (x f y) : (unlinkRaw mm s x f y).rcont = s.rcont := by
  rw [unlinkRaw_eq]; split <;> (try split) <;> simp [St.dropEnd]

theorem unlinkRaw_cont (s : St) (x f y o) :
    (unlinkRaw mm s x f y).cont o =
      if y ∈ s.rs x f ∧ ((o = y ∧ (mm.feat f).cont = true) ∨
          (o = x ∧ ∃ g, (mm.feat f).opp = some g ∧ (mm.feat g).cont = true))
      then none else s.cont o := by
  rw [unlinkRaw_eq]
  by_cases h : y ∈ s.rs x f
  · simp only [h, if_true, true_and]
    cases (mm.feat f).opp <;> simp only [St.dropEnd, putEnd_cont] <;> grind
  · simp [h]

theorem mem_unlinkRaw {s : St} {x f y a f' b} (hf' : (mm.feat f').isList = false) :
    b ∈ (unlinkRaw mm s x f y).rs a f' ↔
      b ∈ s.rs a f' ∧ ¬ (y ∈ s.rs x f ∧ ((a = x ∧ f' = f ∧ b = y) ∨
          ((mm.feat f).opp = some f' ∧ a = y ∧ b = x))) := by
  rw [unlinkRaw_eq]
  by_cases h : y ∈ s.rs x f
  · simp only [h, if_true, true_and]
    cases (mm.feat f).opp with
    | none => simp only [mem_dropEnd mm hf', reduceCtorEq, false_and, or_false]
    | some g =>
      simp only [mem_dropEnd mm hf', Option.some.injEq, not_or, and_assoc, eq_comm (a := g),
        and_left_comm (a := a = y)]
  · simp [h]

end Store
