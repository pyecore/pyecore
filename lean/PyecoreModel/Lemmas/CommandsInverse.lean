import PyecoreModel.Lemmas.StoreTyped
import PyecoreModel.Model.Commands
/-! Whole-model inverse law of one command (C06): its vocabulary (`AShape`, `Covered`, `Good`); the shape invariant of
attribute slots; what `pop`, `insert` and `set` do to a slot without opposite; popping and inserting undo each other;
`undo ∘ execute = id` for every prepared command; a command keeps what every public call keeps. -/
namespace Store
open Py
variable (mm : MM)

/-- the shape of an attribute slot: a single-valued one holds at most one value and never `None`; a collection that is
    not list-like holds no duplicate -/
def ASlot (F : Feature) (l : List PyVal) : Prop :=
  (F.many = false → l.length ≤ 1 ∧ PyVal.none ∉ l) ∧ (F.isList = false → l.Nodup)

def AShape (s : St) : Prop := ∀ x f, (mm.feat f).isRef = false → ASlot (mm.feat f) (s.as x f)

/-- collection operations are offered to many-valued features only (a single-valued attribute has no `append`) -/
def ArityOK : Op → Prop
  | .add _ f _ | .insert _ f _ _ | .remove _ f _ | .pop _ f _ | .clear _ f | .setItem _ f _ _ | .delItem _ f _
  | .extend _ f _ | .assign _ f _ => (mm.feat f).many = true
  | _ => True

def Spec.fid : Spec → Fid
  | .set _ f _ | .add _ f _ _ | .remove _ f _ _ | .move _ f _ _ _ => f
def Spec.oid : Spec → Oid
  | .set x _ _ | .add x _ _ _ | .remove x _ _ _ | .move x _ _ _ _ => x
def Spec.offers : Spec → Option PyVal
  | .set _ _ v | .add _ _ v _ => some v
  | _ => none

/-- what the whole-model law covers: commands on features without an opposite; on a containment, the value offered is
    already there or has no owner yet (the command does not take it away from another container or a resource) -/
def Covered (mm : MM) (s : St) (sp : Spec) : Prop :=
  ((mm.feat sp.fid).isRef = false ∨ (mm.feat sp.fid).opp = none) ∧
  ((mm.feat sp.fid).cont = true → ∀ y, sp.offers = some (.obj y) → y ∈ s.rs sp.oid sp.fid ∨ Free s y)

/-- the invariants the one-step law needs -/
def Good (mm : MM) (s : St) : Prop := AShape mm s ∧ Inv mm s ∧ Typed mm s

/-- a command on a collection is on a many-valued feature: its calls are then `ArityOK` -/
def Cmd.arity (mm : MM) : Cmd → Prop
  | .set _ _ _ _ => True
  | .add _ f _ _ | .remove _ f _ _ | .move _ f _ _ _ => (mm.feat f).many = true

theorem Good.shape {mm : MM} {s : St} (h : Good mm s) : AShape mm s := h.1
theorem Good.inv {mm : MM} {s : St} (h : Good mm s) : Inv mm s := h.2.1
theorem Good.typed {mm : MM} {s : St} (h : Good mm s) : Typed mm s := h.2.2

theorem ASlot_many {F : Feature} {l : List PyVal} (hm : F.many = true) (h : F.isList = false → l.Nodup) : ASlot F l :=
  ⟨fun h' => by rw [hm] at h'; exact absurd h' (by simp), h⟩

theorem ASlot_le_one {F : Feature} {l : List PyVal} (h1 : l.length ≤ 1) (h2 : PyVal.none ∉ l) : ASlot F l := by
  refine ⟨fun _ => ⟨h1, h2⟩, fun _ => ?_⟩
  rcases eq_nil_or_singleton h1 with rfl | ⟨a, rfl⟩ <;> simp

/-- a fresh or unset single-valued attribute holds its declared default, which is never `None` -/
theorem ASlot_dflt (hwft : mm.WFT) (f : Fid) :
    ASlot (mm.feat f) (match (mm.feat f).dflt with | some d => [d] | none => []) := by
  cases hd : (mm.feat f).dflt with
  | none => exact ASlot_le_one (by simp) (by simp)
  | some d =>
    have := hwft.dflt_ok f d hd
    exact ASlot_le_one (by simp) (by rintro h; simp only [List.mem_singleton] at h; subst h; simp [conformsDt] at this)

theorem ArityOK.single {mm : MM} {op : Op} {x f} (hop : ArityOK mm op) (ht : targetOf op = some (x, f))
    (hm : (mm.feat f).many = false) : (∃ v, op = .set x f v) ∨ op = .del x f := by
  cases op with
  | set x' f' v => cases ht; exact .inl ⟨v, rfl⟩
  | del x' f' => cases ht; exact .inr rfl
  | add | insert | remove | pop | clear | setItem | delItem | extend | assign =>
    cases ht
    have : (mm.feat f).many = true := hop
    rw [hm] at this; cases this
  | new | res | delete | rappend | rremove => cases ht

theorem ashape_setAs (s : St) (h : AShape mm s) (x : Oid) (f : Fid) (l : List PyVal) (hl : ASlot (mm.feat f) l) :
    AShape mm (s.setAs x f l) := by
  intro a g hr
  simp only [setAs_as]
  split
  · rename_i hc; obtain ⟨rfl, rfl⟩ := hc; exact hl
  · exact h a g hr

theorem ashape_step (hwft : mm.WFT) (s : St) (h : AShape mm s) (op : Op) (hop : ArityOK mm op) : AShape mm (step mm s op).1 := by
  have frame : ∀ s' : St, Frame s s' → AShape mm s' := fun s' hf a f hr => by rw [hf.as]; exact h a f hr
  refine step_cases mm (fun r => AShape mm r.1) s op
    (herr := fun _ => h) (hnew := ?new) (hres := h)
    (hdelete := fun x r => frame _ (delete_drops mm s x r).frame)
    (hrappend := fun r o => frame _ (rappend_frame mm s r o)) (hrremove := fun _ _ _ => h)
    (href := fun x f _ _ _ _ => frame _ (stepRef_moves mm s x f op).frame) (hattr := ?attr)
  case new =>
    intro c a f hr
    simp only [step]
    split
    · simp only [hr, Bool.false_or]
      split
      · rename_i hm
        exact ASlot_many hm (fun _ => List.nodup_nil)
      · exact ASlot_dflt mm hwft f
    · exact h a f hr
  case attr =>
    intro x f htgt _ _ hr
    cases hm : (mm.feat f).many with
    | false =>
      rcases hop.single htgt hm with ⟨v, rfl⟩ | rfl
      · simp only [stepAttr, hm, Bool.false_eq_true, if_false]
        refine ashape_setAs mm s h x f _ ?_
        split
        · exact ASlot_le_one (by simp) (by simp)
        · rename_i hv; exact ASlot_le_one (by simp) (by simpa using Ne.symm hv)
      · simp only [stepAttr, hm, Bool.false_eq_true, if_false]
        exact ashape_setAs mm s h x f _ (ASlot_dflt mm hwft f)
    | true =>
      refine (stepAttr_spec mm s x f op).state h ?_
      rintro _ ⟨l, rfl, hed⟩
      exact ashape_setAs mm s h x f l (ASlot_many hm (fun hil => (hil ▸ hed).nodup ((h x f hr).2 hil)))

theorem ashape_init : AShape mm init :=
  fun _ _ _ => ASlot_le_one (by simp [init]) (by simp [init])

theorem ashape_run (hwft : mm.WFT) (ops : List Op) (hops : ∀ op ∈ ops, ArityOK mm op) : AShape mm (run mm ops) :=
  List.foldlRecOn ops _ (ashape_init mm) fun s h op hop => ashape_step mm hwft s h op (hops op hop)

theorem slotVals_attr (s : St) (x : Oid) (f : Fid) (hr : (mm.feat f).isRef = false) : slotVals mm s x f = s.as x f := by
  simp [slotVals, hr]

theorem slotVals_ref (s : St) (x : Oid) (f : Fid) (hr : (mm.feat f).isRef = true) :
    slotVals mm s x f = (s.rs x f).map .obj := by
  simp [slotVals, hr]

theorem nodup_map_obj {l : List Oid} : (l.map PyVal.obj).Nodup ↔ l.Nodup := by
  simp only [List.Nodup, List.pairwise_map, ne_eq, PyVal.obj.injEq]

theorem slotVals_nodup (s : St) (hg : Good mm s) (x f) (hl : (mm.feat f).isList = false) : (slotVals mm s x f).Nodup := by
  cases hr : (mm.feat f).isRef with
  | false => rw [slotVals_attr mm s x f hr]; exact (hg.shape x f hr).2 hl
  | true => rw [slotVals_ref mm s x f hr, nodup_map_obj]; exact (hg.inv.card x f).2 hl

theorem pop_answer (s : St) (x : Oid) (f : Fid) (i : Int) (w : Option PyVal)
    (h : (step mm s (.pop x f i)).2 = .ok w) :
    ∃ k, Py.normIdx (slotVals mm s x f).length i = some k ∧ (slotVals mm s x f)[k]? = w := by
  rw [(step_ok mm s _ x f rfl w h).2.2] at h
  split at h
  · rename_i hr
    rw [slotVals_ref mm s x f hr, List.length_map]
    simp only [stepRef] at h
    split at h
    · cases h
    split at h
    · cases h
    rename_i k hn
    split at h
    · cases h
    rename_i y hy
    refine ⟨k, hn, ?_⟩
    split at h <;> cases h <;> simp [hy]
  · rename_i hr
    rw [slotVals_attr mm s x f (by simpa using hr)]
    simp only [stepAttr] at h
    split at h
    · cases h
    cases hp : Py.pyPop (s.as x f) i with
    | none => rw [hp] at h; cases h
    | some lv =>
      obtain ⟨k, hn, hg, _⟩ := Py.pyPop_spec (l' := lv.1) (y := lv.2) hp
      rw [hp] at h; cases h
      exact ⟨k, hn, hg⟩

theorem step_attr_set (s : St) (x : Oid) (f : Fid) (v : PyVal) (hf : hasFeat mm s x f = true)
    (hr : (mm.feat f).isRef = false) (hm : (mm.feat f).many = false) (hc : conforms mm s f v = true) :
    step mm s (.set x f v) = (s.setAs x f (if v = .none then [] else [v]), .ok none) := by
  simp [step, targetOf, hf, offered, hc, hr, stepAttr, hm]

theorem step_attr_insert (s : St) (x : Oid) (f : Fid) (i : Int) (v : PyVal) (hf : hasFeat mm s x f = true)
    (hr : (mm.feat f).isRef = false) (hc : conforms mm s f v = true) :
    step mm s (.insert x f i v) = (s.setAs x f (addVal (mm.feat f).isList (s.as x f) v i), .ok none) := by
  simp [step, targetOf, hf, offered, hc, hr, stepAttr]

theorem step_attr_pop (s : St) (x : Oid) (f : Fid) (i : Int) (hf : hasFeat mm s x f = true)
    (hr : (mm.feat f).isRef = false) {l : List PyVal} {v : PyVal} (hp : pyPop (s.as x f) i = some (l, v)) :
    step mm s (.pop x f i) = (s.setAs x f l, .ok (some v)) := by
  obtain ⟨k, hn, _⟩ := pyPop_spec hp
  simp [step, targetOf, hf, offered, hr, stepAttr, isEmpty_eq_false_of_lt (normIdx_lt hn), hp]

theorem step_ref_pop (hwf : mm.WF) (s : St) (x f) (k : Nat) (y) (hf : hasFeat mm s x f = true) (hr : (mm.feat f).isRef = true)
    (ho : (mm.feat f).opp = none) (hnd : (mm.feat f).isList = false → (s.rs x f).Nodup) (hg : (s.rs x f)[k]? = some y) :
    step mm s (.pop x f k) = (s.putEnd mm x f ((s.rs x f).eraseIdx k) y none, .ok (some (.obj y))) := by
  have hlt : k < (s.rs x f).length := (List.getElem?_eq_some_iff.mp hg).1
  rw [step_target mm s _ x f rfl]
  simp only [hf, offered, List.all_nil, Bool.not_true, Bool.false_eq_true, if_false, hr, if_true, stepRef,
    isEmpty_eq_false_of_lt hlt, normIdx_ofNat hlt, hg]
  cases hl : (mm.feat f).isList with
  | true =>
    -- a list-like slot is no containment: only the slot is written
    have hc : (mm.feat f).cont = false :=
      Bool.eq_false_iff.2 fun hc => by rw [isList_false_of_cont mm hwf hc] at hl; cases hl
    simp [St.putEnd, hc]
  | false =>
    rw [unlinkRaw_noOpp mm s x f y ho (List.mem_of_getElem? hg)]
    simp only [rmVal, hl, Bool.false_eq_true, if_false]
    rw [filter_ne_eq_erase (hnd hl), erase_eq_eraseIdx_of_getElem? (hnd hl) hg]

theorem step_ref_insert (s : St) (x f) (i : Int) (y) (hf : hasFeat mm s x f = true) (hr : (mm.feat f).isRef = true)
    (ho : (mm.feat f).opp = none) (hm : (mm.feat f).many = true) (hc : conforms mm s f (.obj y) = true)
    (hy : (mm.feat f).isList = false → y ∉ s.rs x f) (hfree : (mm.feat f).cont = true → Free s y) :
    step mm s (.insert x f i (.obj y)) = (s.putEnd mm x f (pyInsert (s.rs x f) i y) y (some (x, f)), .ok none) := by
  have hrel : relOcc mm s x f = s := by unfold relOcc; rw [if_pos hm]
  rw [step_target mm s _ x f rfl]
  simp only [hf, offered, List.all_cons, hc, List.all_nil, Bool.and_self, Bool.not_true, Bool.false_eq_true, if_false, hr,
    if_true, stepRef]
  rw [link_noOpp mm s x f y i ho (fun h => hy h.2 h.1) (by rw [hrel]; exact hfree), hrel]
  simp only [St.addEnd, storeVal, hm, if_true, Option.getD_some, addVal_fresh _ _ _ _ hy]

theorem step_ref_set (s : St) (x f v) (hf : hasFeat mm s x f = true) (hr : (mm.feat f).isRef = true)
    (ho : (mm.feat f).opp = none) (hm : (mm.feat f).many = false) (hc : conforms mm s f v = true)
    (hfree : (mm.feat f).cont = true → ∀ y, v = .obj y → y ∈ s.rs x f ∨ Free s y) :
    step mm s (.set x f v) =
      (match v with
        | .obj y => if y ∈ s.rs x f then s else (relOcc mm s x f).putEnd mm x f [y] y (some (x, f))
        | _ => relOcc mm s x f, .ok none) := by
  rw [step_target mm s _ x f rfl]
  simp only [hf, offered, List.all_cons, hc, List.all_nil, Bool.and_self, Bool.not_true, Bool.false_eq_true, if_false, hr,
    if_true, stepRef, hm]
  have hil : (mm.feat f).isList = false := by simp [Feature.isList, hm]
  rcases conforms_ref hr hc with rfl | ⟨y, rfl⟩
  · simp only [relOcc, hm, Bool.false_eq_true, if_false]; rfl
  · dsimp only
    by_cases hy : y ∈ s.rs x f
    · rw [link_eq, if_pos ⟨hy, hil⟩, if_pos hy]
    · rw [if_neg hy, link_noOpp mm s x f y 0 ho (fun h => hy h.1) fun hcn =>
        (relOcc_drops mm s x f).shrinks.free ((hfree hcn y rfl).resolve_left hy)]
      simp only [St.addEnd, storeVal, hm, Bool.false_eq_true, if_false]

/-- a feature whose two ends need not be kept in step -/
def NoOpp (F : Feature) : Prop := F.isRef = false ∨ F.opp = none

theorem NoOpp.opp_none {F : Feature} (h : NoOpp F) (hr : F.isRef = true) : F.opp = none :=
  h.resolve_left (by simp [hr])

/-- `v` can enter the slot `x.f` and leave it again without a trace: it conforms, a set-like slot does not hold it yet,
and a containment does not take it away from another owner -/
structure Fits (s : St) (x : Oid) (f : Fid) (v : PyVal) : Prop where
  conf : conforms mm s f v = true
  notNone : (mm.feat f).isRef = true → v ≠ .none
  fresh : (mm.feat f).isList = false → v ∉ slotVals mm s x f
  free : (mm.feat f).cont = true → ∀ y, v = .obj y → Free s y

/-- pop, then insert the popped value back: the very state -/
theorem pop_insert (hwf : mm.WF) (s : St) (hg : Good mm s) (x f) (k : Nat) (w : PyVal) (hf : hasFeat mm s x f = true)
    (hno : NoOpp (mm.feat f)) (hm : (mm.feat f).many = true) (hw : (slotVals mm s x f)[k]? = some w) :
    ∃ s1, step mm s (.pop x f k) = (s1, .ok (some w)) ∧ step mm s1 (.insert x f k w) = (s, .ok none) ∧
      slotVals mm s1 x f = (slotVals mm s x f).eraseIdx k ∧ hasFeat mm s1 x f = true ∧ Fits mm s1 x f w := by
  cases hr : (mm.feat f).isRef with
  | false =>
    rw [slotVals_attr mm s x f hr] at hw ⊢
    have hcw : conforms mm s f w = true := typed_conforms mm s hg.typed x f hr w (List.mem_of_getElem? hw)
    have hsh := hg.shape x f hr
    have hfresh : (mm.feat f).isList = false → w ∉ (s.as x f).eraseIdx k :=
      fun hl => not_mem_eraseIdx_of_nodup (hsh.2 hl) hw
    refine ⟨s.setAs x f ((s.as x f).eraseIdx k), step_attr_pop mm s x f k hf hr (pyPop_nat hw), ?_, ?_,
      by simpa using hf, ?_⟩
    · rw [step_attr_insert mm _ x f k w (by simpa using hf) hr (by simpa using hcw)]
      simp only [setAs_as_same, setAs_setAs]
      rw [addVal_fresh _ _ w k hfresh, pyInsert_eraseIdx hw, setAs_self]
    · rw [slotVals_attr mm _ x f hr, setAs_as_same]
    · refine ⟨by simpa using hcw, ?_, ?_, ?_⟩
      · intro h; rw [hr] at h; cases h
      · rw [slotVals_attr mm _ x f hr, setAs_as_same]; exact hfresh
      · intro hc; rw [(hwf.cont_unique f hc).2] at hr; cases hr
  | true =>
    have ho := hno.opp_none hr
    rw [slotVals_ref mm s x f hr, List.getElem?_map, Option.map_eq_some_iff] at hw
    obtain ⟨y, hy, rfl⟩ := hw
    rw [slotVals_ref mm s x f hr]
    have hmem : y ∈ s.rs x f := List.mem_of_getElem? hy
    have hnd := (hg.inv.card x f).2
    have hcy : conforms mm s f (.obj y) = true := typed_conforms_ref mm s hg.typed x f hr y hmem
    have hown : (mm.feat f).cont = true → s.cont y = some (x, f) := fun hc => (hg.inv.released hmem hc []).2
    have hfresh : (mm.feat f).isList = false → y ∉ (s.rs x f).eraseIdx k :=
      fun hl => not_mem_eraseIdx_of_nodup (hnd hl) hy
    have hfree : (mm.feat f).cont = true → Free (s.putEnd mm x f ((s.rs x f).eraseIdx k) y none) y :=
      fun hc => (hg.inv.released hmem hc _).1
    refine ⟨_, step_ref_pop mm hwf s x f k y hf hr ho hnd hy, ?_, ?_, by simpa using hf, ?_⟩
    · rw [step_ref_insert mm _ x f k y (by simpa using hf) hr ho hm (by simpa using hcy) (by simpa using hfresh) hfree]
      simp only [putEnd_rs, and_self, if_true, putEnd_putEnd]
      rw [pyInsert_eraseIdx hy, putEnd_self mm s x f y _ hown]
    · rw [slotVals_ref mm _ x f hr]; simp [eraseIdx_map]
    · refine ⟨by simpa using hcy, fun _ => by simp, ?_, ?_⟩
      · intro hl; rw [slotVals_ref mm _ x f hr]; simpa using hfresh hl
      · intro hc z hz; cases hz; exact hfree hc

/-- insert, then pop the same position: the very state, and the value back -/
theorem insert_pop (hwf : mm.WF) (s : St) (x f) (k : Nat) (v : PyVal) (hf : hasFeat mm s x f = true)
    (hno : NoOpp (mm.feat f)) (hnd : (mm.feat f).isList = false → (slotVals mm s x f).Nodup)
    (hm : (mm.feat f).many = true) (hk : k ≤ (slotVals mm s x f).length) (hv : Fits mm s x f v) :
    ∃ s1, step mm s (.insert x f k v) = (s1, .ok none) ∧ step mm s1 (.pop x f k) = (s, .ok (some v)) ∧
      slotVals mm s1 x f = insertAt (slotVals mm s x f) k v := by
  cases hr : (mm.feat f).isRef with
  | false =>
    have hfr := hv.fresh
    rw [slotVals_attr mm s x f hr] at hk hfr ⊢
    refine ⟨s.setAs x f (insertAt (s.as x f) k v), ?_, ?_, ?_⟩
    · rw [step_attr_insert mm s x f k v hf hr hv.conf, addVal_fresh _ _ v k hfr, pyInsert_nat hk]
    · have hpop : pyPop ((s.setAs x f (insertAt (s.as x f) k v)).as x f) (k : Int) = some (s.as x f, v) := by
        rw [setAs_as_same]; exact pyPop_insertAt hk v
      rw [step_attr_pop mm _ x f k (by simpa using hf) hr hpop, setAs_setAs, setAs_self]
    · rw [slotVals_attr mm _ x f hr, setAs_as_same]
  | true =>
    have ho := hno.opp_none hr
    have hfr := hv.fresh
    rw [slotVals_ref mm s x f hr] at hk hfr hnd ⊢
    obtain ⟨y, rfl⟩ : ∃ y, v = .obj y := (conforms_ref hr hv.conf).resolve_left (hv.notNone hr)
    have hk : k ≤ (s.rs x f).length := by simpa using hk
    have hy : (mm.feat f).isList = false → y ∉ s.rs x f := fun hl => by simpa using hfr hl
    have hfree : (mm.feat f).cont = true → Free s y := fun hc => hv.free hc y rfl
    have hnd : (mm.feat f).isList = false → (insertAt (s.rs x f) k y).Nodup :=
      fun hl => nodup_insertAt (nodup_map_obj.1 (hnd hl)) (hy hl) k
    have hget := getElem?_insertAt_self hk y
    refine ⟨_, step_ref_insert mm s x f k y hf hr ho hm hv.conf hy hfree, ?_, ?_⟩
    · rw [pyInsert_nat hk, step_ref_pop mm hwf _ x f k y (by simpa using hf) hr ho (by simpa using hnd)
        (by simpa using hget)]
      simp only [putEnd_rs, and_self, if_true, putEnd_putEnd]
      rw [eraseIdx_insertAt hk, putEnd_self mm s x f y _ (fun hc => (hfree hc).1)]
    · rw [slotVals_ref mm _ x f hr, pyInsert_nat hk]; simp [insertAt_map]

section
variable {mm} {s : St}

/-- what `prepare` answers `.ok` with, read off the slot -/
inductive Prepared (mm : MM) (s : St) : Spec → Cmd → Prop
  | set (x f v) : hasFeat mm s x f = true → (mm.feat f).many = false →
      Prepared mm s (.set x f v) (.set x f v ((slotVals mm s x f).head?.getD .none))
  | add (x f v idx k) : hasFeat mm s x f = true → (mm.feat f).many = true → v ≠ .none →
      ((mm.feat f).unique = true → v ∉ slotVals mm s x f) → k ≤ (slotVals mm s x f).length →
      Prepared mm s (.add x f v idx) (.add x f v k)
  | remove (x f v idx k w) : hasFeat mm s x f = true → (mm.feat f).many = true → (slotVals mm s x f)[k]? = some w →
      Prepared mm s (.remove x f v idx) (.remove x f w k)
  | move (x f frm to v k w) : hasFeat mm s x f = true → (mm.feat f).many = true → (slotVals mm s x f)[k]? = some w →
      Prepared mm s (.move x f frm to v) (.move x f w k (clampIns ((slotVals mm s x f).length - 1) to))

/-- `prepare` got past a point where it may refuse -/
theorem Prep.passed {b : Bool} {e : Prep} {c : Cmd} (h : (if b = true then Prep.cannot else e) = .ok c) :
    b = false ∧ e = .ok c := by
  split at h
  · cases h
  · exact ⟨by simpa using ‹¬b = true›, h⟩

theorem prepared_of_prepare {sp : Spec} {c : Cmd} (hprep : prepare mm s sp = .ok c) : Prepared mm s sp c := by
  cases sp with
  | set x f v =>
    obtain ⟨hg, hprep⟩ := Prep.passed hprep
    simp only [Bool.or_eq_false_iff, Bool.not_eq_false'] at hg
    cases hprep
    have := Prepared.set (mm := mm) (s := s) x f v hg.1 hg.2
    cases hl : slotVals mm s x f <;> simpa [hl] using this
  | add x f v idx =>
    obtain ⟨hg, hprep⟩ := Prep.passed hprep
    obtain ⟨hu, hprep⟩ := Prep.passed hprep
    simp only [Bool.or_eq_false_iff, Bool.not_eq_false', beq_eq_false_iff_ne] at hg
    cases hprep
    refine .add x f v idx _ hg.1.1 hg.2 hg.1.2 (fun huq => by simpa [huq] using hu) ?_
    cases idx with
    | none => exact Nat.le_refl _
    | some i => exact clampIns_le
  | remove x f v idx =>
    obtain ⟨hg, hprep⟩ := Prep.passed hprep
    simp only [Bool.or_eq_false_iff, Bool.not_eq_false'] at hg
    split at hprep
    · -- by value: the first position that holds it
      obtain ⟨_, hprep⟩ := Prep.passed hprep
      split at hprep
      · rename_i hi; cases hprep; exact .remove x f _ _ _ _ hg.1 hg.2 (idxOf?_getElem hi)
      · cases hprep
    · -- by index: normalised, and within the collection
      split at hprep
      · split at hprep
        · rename_i hget; cases hprep; exact .remove x f _ _ _ _ hg.1 hg.2 hget
        · cases hprep
      · cases hprep
    · cases hprep
  | move x f frm to v =>
    obtain ⟨hg, hprep⟩ := Prep.passed hprep
    simp only [Bool.or_eq_false_iff, Bool.not_eq_false'] at hg
    split at hprep
    · cases hprep
    · rename_i k w hfv
      cases hprep
      refine .move x f _ to _ k w hg.1 hg.2 ?_
      split at hfv
      · simp only [Option.bind_eq_some_iff, Option.map_eq_some_iff, Prod.mk.injEq] at hfv
        obtain ⟨_, _, _, hget, rfl, rfl⟩ := hfv
        exact hget
      · simp only [Option.map_eq_some_iff, Prod.mk.injEq] at hfv
        obtain ⟨_, hi, rfl, rfl⟩ := hfv
        exact idxOf?_getElem hi
      · cases hfv

theorem after_of_prepared {sp : Spec} {c : Cmd} (h : Prepared mm s sp c) : c.after mm s = c := by
  cases h with
  | set => rfl
  | add => rfl
  | remove _ _ _ _ _ _ _ _ hg => simp [Cmd.after, hg]
  | move _ _ _ _ _ _ _ _ _ hg => simp [Cmd.after, hg]

theorem after_after (mm : MM) (s : St) (c : Cmd) : (c.after mm s).after mm s = c.after mm s := by
  cases c with
  | set | add => rfl
  | remove x f v i | move x f v i =>
    simp only [Cmd.after]
    cases (slotVals mm s x f)[i]? <;> simp

end

theorem prepare_arity (mm : MM) (s : St) (sp : Spec) (c : Cmd) (h : prepare mm s sp = .ok c) : c.arity mm := by
  cases prepared_of_prepare h with
  | set => trivial
  | add _ _ _ _ _ _ hm => exact hm
  | remove _ _ _ _ _ _ _ hm => exact hm
  | move _ _ _ _ _ _ _ _ hm => exact hm

theorem set_undo (s : St) (hg : Good mm s) (x f v) (hf : hasFeat mm s x f = true)
    (hm : (mm.feat f).many = false) (hcov : Covered mm s (.set x f v)) (r) (hex : (step mm s (.set x f v)).2 = .ok r) :
    step mm (step mm s (.set x f v)).1 (.set x f ((slotVals mm s x f).head?.getD .none)) = (s, .ok none) := by
  have hc := (step_ok mm s _ x f rfl r hex).2.1 v (by simp [offered])
  simp only [Covered, Spec.fid, Spec.oid, Spec.offers] at hcov
  cases hr : (mm.feat f).isRef with
  | false =>
    rw [slotVals_attr mm s x f hr, step_attr_set mm s x f v hf hr hm hc]
    obtain ⟨hlen, hnone⟩ := (hg.shape x f hr).1 hm
    have hprev : conforms mm s f ((s.as x f).head?.getD .none) = true ∧
        (if (s.as x f).head?.getD .none = .none then [] else [(s.as x f).head?.getD .none]) = s.as x f := by
      rcases Py.eq_nil_or_singleton hlen with hl | ⟨p, hl⟩
      · rw [hl]; exact ⟨rfl, rfl⟩
      · rw [hl] at hnone
        refine ⟨by rw [hl]; exact typed_conforms mm s hg.typed x f hr p (by rw [hl]; simp), ?_⟩
        have : p ≠ .none := fun h => hnone (by rw [h]; simp)
        simp [hl, this]
    rw [step_attr_set mm _ x f _ (by simpa using hf) hr hm (by simpa using hprev.1), setAs_setAs, hprev.2, setAs_self]
  | true =>
    have ho := NoOpp.opp_none hcov.1 hr
    have hfree : (mm.feat f).cont = true → ∀ y, v = .obj y → y ∈ s.rs x f ∨ Free s y :=
      fun hcn y hy => hcov.2 hcn y (by rw [hy])
    rw [slotVals_ref mm s x f hr, step_ref_set mm s x f v hf hr ho hm hc hfree]
    have hv := conforms_ref hr hc
    rcases Py.eq_nil_or_singleton ((hg.inv.card x f).1 hm) with hl | ⟨y0, hl⟩
    · -- the slot was empty
      have hrel := relOcc_nil mm s x f hl
      rcases hv with rfl | ⟨y, rfl⟩
      · -- `None` assigned: nothing happens, twice
        simp only [hrel, hl, List.map_nil, List.head?_nil, Option.getD_none]
        rw [step_ref_set mm s x f .none hf hr ho hm rfl (fun _ _ h => by cases h)]
        simp only [hrel]
      · -- `y` enters; assigning `None` releases it
        have hfr : (mm.feat f).cont = true → s.cont y = none :=
          fun hcn => ((hfree hcn y rfl).resolve_left (by rw [hl]; simp)).1
        have e1 : (s.putEnd mm x f [y] y (some (x, f))).rs x f = [y] := by simp
        simp only [hl, List.not_mem_nil, if_false, hrel, List.map_nil, List.head?_nil, Option.getD_none]
        rw [step_ref_set mm _ x f .none (by simpa using hf) hr ho hm rfl (fun _ _ h => by cases h)]
        simp only [relOcc_single mm _ x f y ho hm e1, putEnd_putEnd]
        rw [← hl, putEnd_self mm s x f y none hfr]
    · -- the slot held y0
      have hy0 : y0 ∈ s.rs x f := by rw [hl]; simp
      have hown : (mm.feat f).cont = true → Free (s.putEnd mm x f [] y0 none) y0 ∧ s.cont y0 = some (x, f) :=
        fun hcn => hg.inv.released hy0 hcn []
      have hcy0 : conforms mm s f (.obj y0) = true := typed_conforms_ref mm s hg.typed x f hr y0 hy0
      have hrel := relOcc_single mm s x f y0 ho hm hl
      have hself : s.putEnd mm x f [y0] y0 (some (x, f)) = s := by
        rw [← hl]; exact putEnd_self mm s x f y0 _ (fun hcn => (hown hcn).2)
      simp only [hl, List.map_cons, List.map_nil, List.head?_cons, Option.getD_some]
      rcases hv with rfl | ⟨y, rfl⟩
      · -- `None` assigned: `y0` is released; assigning `y0` stores it back
        have e1 : (s.putEnd mm x f [] y0 none).rs x f = [] := by simp
        simp only [hrel]
        rw [step_ref_set mm _ x f (.obj y0) (by simpa using hf) hr ho hm (by simpa using hcy0)
          (fun hcn z hz => by cases hz; exact Or.inr (hown hcn).1)]
        simp only [e1, List.not_mem_nil, if_false, relOcc_nil mm _ x f e1, putEnd_putEnd, hself]
      · by_cases hy : y = y0
        · -- `y0` assigned again: nothing happens, twice
          subst hy
          simp only [List.mem_singleton, if_true]
          rw [step_ref_set mm s x f _ hf hr ho hm hcy0 (fun _ z hz => by cases hz; exact Or.inl hy0)]
          simp only [hl, List.mem_singleton, if_true]
        · -- `y0` released and `y` stored, then `y` released and `y0` stored: writes to two back-pointers, which commute
          have hfr : (mm.feat f).cont = true → s.cont y = none :=
            fun hcn => ((hfree hcn y rfl).resolve_left (by rw [hl]; simpa using hy)).1
          have e1 : ((s.putEnd mm x f [] y0 none).putEnd mm x f [y] y (some (x, f))).rs x f = [y] := by simp
          simp only [List.mem_singleton, hy, if_false, hrel]
          rw [step_ref_set mm _ x f (.obj y0) (by simpa using hf) hr ho hm (by simpa using hcy0) ?free]
          case free =>
            intro hcn z hz; cases hz; right
            exact ⟨by simp [hcn, Ne.symm hy], by simpa using (hown hcn).1.2⟩
          simp only [e1, List.mem_singleton, Ne.symm hy, if_false, relOcc_single mm _ x f y ho hm e1, putEnd_putEnd]
          rw [putEnd_comm mm s x f _ _ y0 y _ _ (Ne.symm hy), putEnd_putEnd, putEnd_comm mm s x f _ _ y y0 _ _ hy, hself,
            ← hl, putEnd_self mm s x f y none hfr]

/-- Add is insert-then-pop, Remove is pop-then-insert, Move is both (pop `k`, insert `t`; undone by pop `t`, insert `k`). -/
theorem prepared_undo (hwf : mm.WF) (s : St) (hg : Good mm s) {sp : Spec} {c : Cmd} (hp : Prepared mm s sp c)
    (hcov : Covered mm s sp) {r : Option PyVal} (hex : (c.exec mm s).2 = .ok r) :
    ∃ r', c.undo mm (c.exec mm s).1 = (s, .ok r') := by
  cases hp with
  | set x f v hf hm => exact ⟨none, set_undo mm s hg x f v hf hm hcov r hex⟩
  | add x f v idx k hf hm hvn hu hk =>
    simp only [Covered, Spec.fid, Spec.oid, Spec.offers] at hcov
    have hc := (step_ok mm s _ x f rfl r hex).2.1 v (by simp [offered])
    have huq : (mm.feat f).isList = false → (mm.feat f).unique = true := by
      intro hl; simpa [Feature.isList, hm] using hl
    have hfits : Fits mm s x f v := by
      refine ⟨hc, fun _ => hvn, fun hl => hu (huq hl), ?_⟩
      intro hcn y hy
      subst hy
      refine (hcov.2 hcn y rfl).resolve_left (fun hin => hu (hwf.cont_unique f hcn).1 ?_)
      rw [slotVals_ref mm s x f (hwf.cont_unique f hcn).2]; simpa using hin
    obtain ⟨s1, h1, h2, hsv⟩ := insert_pop mm hwf s x f k v hf hcov.1 (slotVals_nodup mm s hg x f) hm hk hfits
    refine ⟨some v, ?_⟩
    simp only [Cmd.exec, h1, Cmd.undo, hsv, List.contains_iff_mem, mem_insertAt, true_or, if_true, h2]
  | remove x f v idx k w hf hm hw =>
    obtain ⟨s1, h1, h2, _⟩ := pop_insert mm hwf s hg x f k w hf hcov.1 hm hw
    exact ⟨none, by simp only [Cmd.exec, h1, Cmd.undo, h2]⟩
  | move x f frm to v k w hf hm hw =>
    obtain ⟨s1, h1, h2, hsv1, hf1, hfits⟩ := pop_insert mm hwf s hg x f k w hf hcov.1 hm hw
    have hlt : k < (slotVals mm s x f).length := (List.getElem?_eq_some_iff.mp hw).1
    generalize ht : clampIns ((slotVals mm s x f).length - 1) to = t
    have htle : t ≤ (slotVals mm s1 x f).length := by
      rw [hsv1, List.length_eraseIdx_of_lt hlt, ← ht]; exact clampIns_le
    obtain ⟨s2, g1, g2, hsv2⟩ := insert_pop mm hwf s1 x f t w hf1 hcov.1
      (fun hl => by rw [hsv1]; exact (slotVals_nodup mm s hg x f hl).eraseIdx k) hm htle hfits
    have hget : (slotVals mm s2 x f)[t]? = some w := by rw [hsv2]; exact getElem?_insertAt_self htle w
    refine ⟨none, ?_⟩
    simp only [Cmd.exec, h1, Option.getD_some, g1, Cmd.undo, hget, bne_self_eq_false, Bool.false_eq_true, if_false, g2, h2]

theorem covered_inverse (hwf : mm.WF) (s : St) (hg : Good mm s) (sp : Spec) (hcov : Covered mm s sp)
    (c : Cmd) (hprep : prepare mm s sp = .ok c) (r : Option PyVal) (hex : (c.exec mm s).2 = .ok r) :
    (∃ r', (c.after mm s).undo mm (c.exec mm s).1 = (s, .ok r')) ∧ (c.after mm s).redo mm s = c.exec mm s := by
  have hp := prepared_of_prepare hprep
  rw [after_of_prepared hp]
  exact ⟨prepared_undo mm hwf s hg hp hcov hex, rfl⟩

theorem good_step (hwf : mm.WF) (hwft : mm.WFT) (s : St) (h : Good mm s) (op : Op) (hop : ArityOK mm op) :
    Good mm (step mm s op).1 :=
  ⟨ashape_step mm hwft s h.shape op hop, inv_step mm hwf s h.inv op, typed_step mm hwf hwft s h.typed op⟩

/-- A command only makes public calls, and calls that respect arity when the command does: whatever every such call
keeps, `exec` and `undo` keep. -/
theorem Cmd.keeps {P : St → Prop} (c : Cmd)
    (hstep : ∀ s op, (c.arity mm → ArityOK mm op) → P s → P (step mm s op).1) (s : St) (h : P s) :
    P (c.exec mm s).1 ∧ P (c.undo mm s).1 := by
  cases c with
  | set x f v p => exact ⟨hstep s _ (fun _ => trivial) h, hstep s _ (fun _ => trivial) h⟩
  | add x f v i =>
    refine ⟨hstep s _ id h, ?_⟩
    simp only [Cmd.undo]; split
    · exact hstep s _ id h
    · exact h
  | remove x f v i => exact ⟨hstep s _ id h, hstep s _ id h⟩
  | move x f v a b =>
    constructor
    · simp only [Cmd.exec]; split
      · exact hstep s (.pop x f a) id h
      · exact hstep _ (.insert x f b _) id (hstep s (.pop x f a) id h)
    · simp only [Cmd.undo]; split
      · exact h
      · split
        · exact hstep s (.pop x f b) id h
        · exact hstep _ (.insert x f a _) id (hstep s (.pop x f b) id h)

theorem good_exec (hwf : mm.WF) (hwft : mm.WFT) (s : St) (h : Good mm s) {sp : Spec} {c : Cmd}
    (hprep : prepare mm s sp = .ok c) : Good mm (c.exec mm s).1 :=
  (c.keeps mm (fun s' op ha hs => good_step mm hwf hwft s' hs op (ha (prepare_arity mm s sp c hprep))) s h).1

end Store
