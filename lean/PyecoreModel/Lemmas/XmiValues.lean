import PyecoreModel.Model.XmiValues
/-! The value layers of XMI (C08): `splitAux` reads back the words `joinSp` wrote (`split_join`); what `lookupId` finds. -/
namespace Xmi

variable (ws : Char → Bool)

def Word (w : List Char) : Prop := w ≠ [] ∧ ∀ c ∈ w, ws c = false

instance (w : List Char) : Decidable (Word ws w) :=
  inferInstanceAs (Decidable (w ≠ [] ∧ ∀ c ∈ w, ws c = false))

theorem splitAux_word (w rest cur : List Char) (hw : ∀ c ∈ w, ws c = false) :
    splitAux ws (w ++ rest) cur = splitAux ws rest (w.reverse ++ cur) := by
  induction w generalizing cur with
  | nil => rfl
  | cons c cs ih =>
    rw [List.cons_append, splitAux, hw c (by simp), ih (c :: cur) fun c h => hw c (List.mem_cons_of_mem _ h)]
    simp

theorem split_join (hsp : ws ' ' = true) (l : List (List Char)) (h : ∀ w ∈ l, Word ws w) :
    pySplit ws (joinSp l) = l := by
  unfold pySplit
  induction l with
  | nil => rfl
  | cons x t ih =>
    obtain ⟨hne, hx⟩ := h x (by simp)
    -- once the word is read, it is what `splitAux` has collected, and it is not empty
    have hcur : x.reverse.isEmpty = false := by simpa using hne
    cases t with
    | nil => simpa [joinSp, splitAux, hcur] using splitAux_word ws x [] [] hx
    | cons y t =>
      rw [joinSp, splitAux_word ws x _ [] hx, List.append_nil, splitAux, if_pos hsp, hcur,
        ih fun w hw => h w (by simp [hw])]
      simp

theorem not_special_words (vs : List (List Char)) (h : special ws vs = false) : ∀ w ∈ vs, Word ws w := by
  intro w hw
  have := List.any_eq_false.1 h w hw
  simp only [Bool.or_eq_true, not_or, Bool.not_eq_true, List.isEmpty_eq_false_iff, List.any_eq_false] at this
  exact this

theorem lookupId_append {β : Type} (tbl : List (List Char × β)) (k : List Char) (b : β) :
    lookupId (tbl ++ [(k, b)]) k = some b := by
  simp [lookupId]

theorem lookupId_of_unique {β : Type} (tbl : List (List Char × β)) (k : List Char) (b : β)
    (hex : (k, b) ∈ tbl) (hun : ∀ e ∈ tbl, e.1 = k → e.2 = b) : lookupId tbl k = some b := by
  unfold lookupId
  cases hf : tbl.reverse.find? (fun p => p.1 == k) with
  | none => simpa using List.find?_eq_none.mp hf (k, b) (List.mem_reverse.mpr hex)
  | some e =>
    have := hun e (List.mem_reverse.mp (List.mem_of_find?_eq_some hf)) (by simpa using List.find?_some hf)
    simp [this]

end Xmi
