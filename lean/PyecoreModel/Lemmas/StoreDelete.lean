import PyecoreModel.Lemmas.StoreTyped
/-! `delete()`: list-level characterisation of `unlinkRaw`, of folds of it, of `deleteOne` and `delete` (C07). -/
namespace Store
variable (mm : MM)

/-- no reference slot holds an element twice (list-like references included: the admissible histories never offer
a list-like reference a value it already holds) -/
def Nd (s : St) : Prop := ∀ o f, (s.rs o f).Nodup

theorem dropEnd_nd (s : St) (hn : Nd s) (x f y) : Nd (s.dropEnd mm x f y) := by
  intro a f'
  unfold St.dropEnd; rw [putEnd_rs]; split
  · exact rmVal_nodup (hn x f)
  · exact hn a f'

theorem unlinkRaw_nd (s : St) (hn : Nd s) (x f y) : Nd (unlinkRaw mm s x f y) :=
  unlinkRaw_of_dropEnd mm (dropEnd_nd mm) hn

variable {mm} in
theorem Drops.nd {s s' : St} (h : Drops mm s s') (hn : Nd s) : Nd s' :=
  h.keeps (unlinkRaw_nd mm) (fun _ hs y o f => by rw [unroot_rs]; exact hs o f) hn

/-- in a state without duplicates a release is a `filter`: order is kept -/
theorem dropEnd_rs_filter (s : St) (hn : Nd s) (x f y a f') :
    (s.dropEnd mm x f y).rs a f' = (s.rs a f').filter (fun b => !decide (a = x ∧ f' = f ∧ b = y)) := by
  unfold St.dropEnd; rw [putEnd_rs]; split
  · rename_i hc; obtain ⟨rfl, rfl⟩ := hc
    rw [rmVal_eq_filter _ _ _ (hn a f')]
    apply List.filter_congr; intro b _; simp
  · rename_i hc
    symm; rw [List.filter_eq_self]; intro b _
    simp only [Bool.not_eq_true', decide_eq_false_iff_not]
    exact fun h => hc ⟨h.1, h.2.1⟩

/-- the triple `(a, f', b)` is the link `x -f-> y` or its mirror -/
def gone (x : Oid) (f : Fid) (y : Oid) (a : Oid) (f' : Fid) (b : Oid) : Bool :=
  decide (a = x ∧ f' = f ∧ b = y) || decide ((mm.feat f).opp = some f' ∧ a = y ∧ b = x)

theorem unlinkRaw_rs_filter (s : St) (hs : Sym mm s) (hn : Nd s) (x f y a f') :
    (unlinkRaw mm s x f y).rs a f' = (s.rs a f').filter (fun b => !gone mm x f y a f' b) := by
  rw [unlinkRaw_eq]
  by_cases hxy : y ∈ s.rs x f
  · simp only [hxy, if_true]
    cases hopp : (mm.feat f).opp with
    | none =>
      dsimp only
      rw [dropEnd_rs_filter mm s hn]
      apply List.filter_congr; intro b _; simp [gone, hopp]
    | some g =>
      dsimp only
      rw [dropEnd_rs_filter mm _ (dropEnd_nd mm s hn x f y), dropEnd_rs_filter mm s hn, List.filter_filter]
      apply List.filter_congr; intro b _
      simp only [gone, hopp, Option.some.injEq, Bool.not_or, Bool.and_comm, eq_comm (a := g), and_left_comm (a := a = y)]
  · simp only [hxy, if_false]
    symm; rw [List.filter_eq_self]; intro b hb
    simp only [gone, Bool.not_or, Bool.and_eq_true, Bool.not_eq_true', decide_eq_false_iff_not]
    refine ⟨?_, ?_⟩
    · rintro ⟨rfl, rfl, rfl⟩; exact hxy hb
    · rintro ⟨hopp, rfl, rfl⟩
      exact hxy ((hs f f' hopp b a).2 hb)

abbrev Link := Oid × Fid × Oid

def unlinkAll (s : St) (L : List Link) : St :=
  L.foldl (fun s (l : Link) => unlinkRaw mm s l.1 l.2.1 l.2.2) s

theorem unlinkAll_drops (s : St) (L) : Drops mm s (unlinkAll mm s L) :=
  Drops.foldl (fun s _ => .unlink _ _ _ (.refl s)) _ s

theorem unlinkAll_inv (hwf : mm.WF) (s : St) (h : Inv mm s) (L) : Inv mm (unlinkAll mm s L) :=
  (unlinkAll_drops mm s L).inv hwf h

theorem unlinkAll_res (s : St) (L) : (unlinkAll mm s L).eres = s.eres ∧ (unlinkAll mm s L).rcont = s.rcont :=
  List.foldlRecOn (motive := fun s' : St => s'.eres = s.eres ∧ s'.rcont = s.rcont) L _ ⟨rfl, rfl⟩ fun s' h _ _ => by
    rw [unlinkRaw_eres, unlinkRaw_rcont]; exact h

theorem unlinkAll_rs (hwf : mm.WF) (s : St) (h : Inv mm s) (hn : Nd s) (L : List Link) (a f') :
    (unlinkAll mm s L).rs a f' =
      (s.rs a f').filter (fun b => !L.any (fun l => gone mm l.1 l.2.1 l.2.2 a f' b)) := by
  unfold unlinkAll
  induction L generalizing s with
  | nil => exact (List.filter_eq_self.2 (fun _ _ => rfl)).symm
  | cons l t ih =>
    simp only [List.foldl_cons]
    rw [ih _ (unlinkRaw_inv mm hwf s h _ _ _) (unlinkRaw_nd mm s hn _ _ _),
        unlinkRaw_rs_filter mm s h.sym hn, List.filter_filter]
    apply List.filter_congr; intro b _
    simp only [List.any_cons, Bool.not_or, Bool.and_comm]

theorem deleteOne_eq (s : St) (x) : deleteOne mm s x = unlinkAll mm s (linksOf mm s x) := rfl

theorem mem_linksOf (s : St) (x a f b) :
    (a, f, b) ∈ linksOf mm s x ↔ f < mm.nFeat ∧ b ∈ s.rs a f ∧ (a = x ∨ (b = x ∧ a < s.nObj)) := by
  simp only [linksOf, List.mem_append, List.mem_flatMap, List.mem_range, List.mem_map, Prod.mk.injEq]
  constructor
  · rintro (⟨f', hf, y, hy, rfl, rfl, rfl⟩ | ⟨o, ho, f', hf, hm⟩)
    · exact ⟨hf, hy, Or.inl rfl⟩
    · split at hm
      · rename_i hx
        simp only [List.mem_singleton, Prod.mk.injEq] at hm
        obtain ⟨rfl, rfl, rfl⟩ := hm
        exact ⟨hf, hx, Or.inr ⟨rfl, ho⟩⟩
      · cases hm
  · rintro ⟨hf, hb, rfl | ⟨rfl, ha⟩⟩
    · exact Or.inl ⟨f, hf, b, hb, rfl, rfl, rfl⟩
    · exact Or.inr ⟨a, ha, f, hf, by simp [hb]⟩

theorem any_linksOf (s : St) (ht : Typed mm s) (x a f' b)
    (hb : b ∈ s.rs a f') :
    (linksOf mm s x).any (fun l => gone mm l.1 l.2.1 l.2.2 a f' b) = (decide (a = x) || decide (b = x)) := by
  have hr := ht.1 a f' b hb
  rw [Bool.eq_iff_iff]
  simp only [List.any_eq_true, Bool.or_eq_true, decide_eq_true_eq]
  constructor
  · rintro ⟨⟨lx, lf, ly⟩, hl, hg⟩
    simp only [gone, Bool.or_eq_true, decide_eq_true_eq] at hg
    have h := ((mem_linksOf mm s x lx lf ly).1 hl).2.2.imp_right And.left
    rcases hg with ⟨rfl, rfl, rfl⟩ | ⟨_, rfl, rfl⟩
    · exact h
    · exact h.symm
  · intro h
    exact ⟨(a, f', b), (mem_linksOf mm s x a f' b).2 ⟨hr.1.2, hb, h.imp_right fun e => ⟨e, hr.1.1⟩⟩, by simp [gone]⟩

theorem deleteOne_rs (hwf : mm.WF) (s : St) (h : Inv mm s) (ht : Typed mm s) (hn : Nd s) (x a f') :
    (deleteOne mm s x).rs a f' = (s.rs a f').filter (fun b => !(decide (a = x) || decide (b = x))) := by
  rw [deleteOne_eq, unlinkAll_rs mm hwf s h hn]
  apply List.filter_congr; intro b hb
  rw [any_linksOf mm s ht x a f' b hb]

def deleteAll (s : St) (D : List Oid) : St := D.foldl (deleteOne mm) s

/-- the deleted objects: `x` and, when recursive, everything below it -/
def deleted (mm : MM) (s : St) (x : Oid) (recursive : Bool) : List Oid :=
  (if recursive then descendants mm s s.nObj x else []) ++ [x]

theorem delete_eq (s : St) (x r) : delete mm s x r = deleteAll mm s (deleted mm s x r) := by
  unfold delete deleteAll deleted; rw [List.foldl_append]; rfl

theorem deleteAll_rs (hwf : mm.WF) (s : St) (h : Inv mm s) (ht : Typed mm s) (hn : Nd s)
    (D : List Oid) (a f') :
    (deleteAll mm s D).rs a f' = (s.rs a f').filter (fun b => !(decide (a ∈ D) || decide (b ∈ D))) := by
  unfold deleteAll
  induction D generalizing s with
  | nil => exact (List.filter_eq_self.2 (fun _ _ => by simp)).symm
  | cons d t ih =>
    simp only [List.foldl_cons]
    have d1 := deleteOne_drops mm s d
    rw [ih _ (d1.inv hwf h) (d1.typed ht) (d1.nd hn),
        deleteOne_rs mm hwf s h ht hn, List.filter_filter]
    apply List.filter_congr; intro b _
    simp only [List.mem_cons]
    rw [Bool.decide_or, Bool.decide_or]
    generalize decide (a = d) = p, decide (b = d) = q, decide (a ∈ t) = p', decide (b ∈ t) = q'
    revert p q p' q'; decide

theorem deleteAll_drops (s : St) (D) : Drops mm s (deleteAll mm s D) :=
  Drops.foldl (fun s d => deleteOne_drops mm s d) _ s

theorem deleteAll_shrinks (s : St) (D) : Shrinks s (deleteAll mm s D) := (deleteAll_drops mm s D).shrinks

theorem deleteAll_res (s : St) (D) : (deleteAll mm s D).eres = s.eres ∧ (deleteAll mm s D).rcont = s.rcont :=
  List.foldlRecOn (motive := fun s' : St => s'.eres = s.eres ∧ s'.rcont = s.rcont) D _ ⟨rfl, rfl⟩ fun s' h d _ => by
    rw [deleteOne_eq, (unlinkAll_res mm s' _).1, (unlinkAll_res mm s' _).2]; exact h

theorem deleteAll_cont (hwf : mm.WF) (s : St) (h : Inv mm s) (ht : Typed mm s) (hn : Nd s)
    (D : List Oid) (o p f) :
    (deleteAll mm s D).cont o = some (p, f) ↔ s.cont o = some (p, f) ∧ p ∉ D ∧ o ∉ D := by
  have hi := (deleteAll_drops mm s D).inv hwf h
  rw [hi.own o p f, deleteAll_rs mm hwf s h ht hn, h.own o p f, List.mem_filter]
  simp only [Bool.not_or, Bool.and_eq_true, Bool.not_eq_true', decide_eq_false_iff_not]
  constructor
  · rintro ⟨a, b, c, d⟩; exact ⟨⟨a, b⟩, c, d⟩
  · rintro ⟨⟨a, b⟩, c, d⟩; exact ⟨a, b, c, d⟩

end Store
