import PyecoreModel.Model.JsonDoc
import PyecoreModel.Lemmas.XmiDocRefs
/-! The value round trip of JSON (C09): what `jDec` reads from the dictionary `jEnc` wrote is the normal form `eff` of the
object.  A slot writes at most one key, its own (`jSlot_eq`); under a feature's name the dictionary holds that value
(`entries_lookup`), which reads back as the feature's effective slot (`jslot_roundtrip`) and, for a containment feature, as
the object's children under it (`jslot_kids`, `jcont_roundtrip`); the reserved keys around these entries give the class
and the uuid and nothing else (`jDec_framed`).  Then by induction over the tree (`jdec_enc`).  Last, the two facts about
references that C09 needs beyond those of XmiDocRefs (`mapRefs_some`, `mapTL_comp`). -/
namespace JDoc
open XDoc

/-- a JSON reference token is any string; the class written next to it is not read back -/
abbrev tokOf (r : JRef) : Str := r.tok

/-- the reserved keys are not features -/
structure MMJ (mm : MMX) : Prop extends MMOK mm where
  res : ∀ c k, isReserved k = true → mm.find c k = Option.none

theorem kEClass_reserved : isReserved kEClass = true := by decide +kernel
theorem kUuid_reserved : isReserved kUuid = true := by decide +kernel
theorem kEClass_ne_kUuid : kEClass ≠ kUuid := by decide +kernel

abbrev WFJ (mm : MMX) : SNode JRef → Prop := WFG mm (fun _ => True)

theorem jEncKids_eq_map (mm : MMX) (o : Opts) (pcls : Nat) (l : List (SNode JRef)) :
    jEncKids mm o pcls l = l.map fun k => (k.via, jEnc mm o false (declOf mm pcls k.via) k) := by
  induction l with
  | nil => simp [jEncKids]
  | cons k t ih => simp only [jEncKids, List.map_cons, ih]

theorem jDecList_map {α : Type} (mm : MMX) (via : Str) (decl : Nat) {l : List α} {g : α → JV} {h : α → SNode Str}
    (hd : ∀ x ∈ l, jDec mm false via decl (g x) = some (h x)) : jDecList mm via decl (l.map g) = some (l.map h) := by
  induction l with
  | nil => simp [jDecList]
  | cons x t ih =>
    simp only [List.map_cons, jDecList, hd x (by simp), ih (fun y hy => hd y (by simp [hy]))]

theorem jEnc_obj (mm : MMX) (o : Opts) (top : Bool) (decl : Nat) (n : SNode JRef) : ∃ l, jEnc mm o top decl n = .obj l := by
  cases n; simp only [jEnc]; exact ⟨_, rfl⟩

/-- the value written under the key of a slot of feature `fi` -/
def wVal (fi : FInfo) (o : Opts) (kidsJ : List JV) : SlotV JRef → Option JV
  | .none => if o.sd || fi.dflt.isSome then some .null else Option.none
  | .attr1 v => if !veq fi v || o.sd then some (.atom v) else Option.none
  | .attrN vs => some (.arr (vs.map optAtom))
  | .ref1 t => some (refObj t)
  | .refN ts => some (.arr (ts.map refObj))
  | .kids => if fi.many then some (.arr kidsJ) else kidsJ.head?

/-- an entry of a feature that is written contributes at most one key, its own -/
theorem jSlot_eq (mm : MMX) (o : Opts) (cls : Nat) (ks : List (Str × JV)) (f : Str) (s : SlotV JRef) (fi : FInfo)
    (hf : mm.find cls f = some fi) (hk : fi.kind ≠ .skip) :
    jSlot mm o cls ks (f, s) = ((wVal fi o ((ks.filter fun p => p.1 == f).map (·.2)) s).map fun v => (f, v)).toList := by
  unfold jSlot wVal
  simp only [hf, hk, if_false]
  cases s with
  | none => simp only; split <;> rfl
  | attr1 v => simp only; split <;> rfl
  | kids =>
    simp only
    split
    · rfl
    · cases (List.map (fun x => x.2) (List.filter (fun p => p.1 == f) ks)) <;> rfl
  | _ => rfl

theorem jSlot_own (mm : MMX) (o : Opts) (cls : Nat) (ks : List (Str × JV)) (e : Str × SlotV JRef) :
    ∀ b ∈ jSlot mm o cls ks e, b.1 = e.1 := by
  intro b hb
  cases hf : mm.find cls e.1 with
  | none => simp [jSlot, hf] at hb
  | some fi =>
    by_cases hk : fi.kind = .skip
    · simp [jSlot, hf, hk] at hb
    · rw [jSlot_eq mm o cls ks e.1 e.2 fi hf hk] at hb
      obtain ⟨v, _, rfl⟩ := by simpa using hb
      rfl

theorem entries_lookup (mm : MMX) (o : Opts) (cls : Nat) (ks : List (Str × JV)) (slots : List (Str × SlotV JRef))
    (hnd : (slots.map (·.1)).Nodup) (fi : FInfo) (hf : mm.find cls fi.name = some fi) (hk : fi.kind ≠ .skip) :
    (slots.flatMap (jSlot mm o cls ks)).lookup fi.name
      = (slots.lookup fi.name).bind (wVal fi o ((ks.filter fun p => p.1 == fi.name).map (·.2))) :=
  keyed_lookup (jSlot mm o cls ks) (jSlot_own mm o cls ks) slots hnd fi.name _
    fun s => jSlot_eq mm o cls ks fi.name s fi hf hk

theorem refTok_refObj (r : JRef) : refTok (refObj r) = some r.tok := by
  have : (kRef == kEClass) = false := by decide +kernel
  simp [refTok, refObj, List.lookup_cons, this, sAtom, atomStr]

abbrev tokSlots (slots : List (Str × SlotV JRef)) : List (Str × SlotV Str) :=
  slots.map fun e => (e.1, mapSlotT JRef.tok e.2)

theorem jSlotOf_wVal (o : Opts) (fi : FInfo) {kidsJ : List JV} (s : SlotV JRef)
    (hkind : fi.kind = .attr ∨ fi.kind = .ref) (hsh : Shape fi s) :
    (match wVal fi o kidsJ s with
      | Option.none => some (unsetSlot fi)
      | some v => jSlotOf fi v) = some (normSlot o.sd fi (mapSlotT JRef.tok s)) := by
  cases s with
  | none =>
    have hm : fi.many = false := hsh
    -- None is written as `null`, or not at all where the default is None anyway
    rcases hkind with hk | hk <;> cases hsd : o.sd <;> cases hd : fi.dflt <;>
      simp [wVal, mapSlotT, normSlot, jSlotOf, unsetSlot, hk, hm, hsd, hd]
  | attr1 v =>
    obtain ⟨hk, hm⟩ := hsh
    simp only [wVal, mapSlotT, normSlot, hk, true_and]
    cases hsd : o.sd with
    | true => simp [jSlotOf, hk, hm]
    | false =>
      cases hv : veq fi v with
      | false => simp [jSlotOf, hk, hm]
      | true =>
        -- a value equal to the default is not written: the default comes back
        obtain ⟨d, hd⟩ := dflt_of_veq hv
        simp [unsetSlot, hk, hm, hd]
  | attrN vs =>
    simp only [wVal, mapSlotT, normSlot, jSlotOf, hsh.1, List.mapM_map,
      Py.mapM_some_of_forall (jAttrElem ∘ optAtom) id vs fun v _ => by cases v <;> rfl, List.map_id, Option.map_some]
  | ref1 t =>
    simp only [wVal, mapSlotT, normSlot, refObj, jSlotOf, hsh.1]
    exact congrArg _ (refTok_refObj t)
  | refN ts =>
    simp only [wVal, mapSlotT, normSlot, jSlotOf, hsh.1, List.mapM_map,
      Py.mapM_some_of_forall (refTok ∘ refObj) _ ts fun r _ => refTok_refObj r, Option.map_some]
  | kids =>
    have hk : fi.kind = .cont := hsh
    rw [hk] at hkind
    simp at hkind

/-- `jEffSlot` reads the entries only under the feature's name -/
theorem jEffSlot_char (fi : FInfo) (entries : List (Str × JV)) :
    jEffSlot fi entries =
      if fi.kind = .attr ∨ fi.kind = .ref then
        (match entries.lookup fi.name with
          | Option.none => some (unsetSlot fi)
          | some v => jSlotOf fi v).map fun s => some (fi.name, s)
      else some Option.none := by
  unfold jEffSlot
  cases fi.kind <;> simp <;> cases entries.lookup fi.name <;> rfl

theorem jslot_roundtrip (mm : MMX) (o : Opts) (hmm : MMOK mm) (cls : Nat) (ks : List (Str × JV))
    (slots : List (Str × SlotV JRef)) (hnd : (slots.map (·.1)).Nodup) (hs : ∀ e ∈ slots, SlotOKg mm (fun _ => True) cls e)
    (fi : FInfo) (hfi : fi ∈ mm.feats cls) :
    jEffSlot fi (slots.flatMap (jSlot mm o cls ks)) = some (effSlot o.sd fi (tokSlots slots)) := by
  have hfind := hmm.findSelf cls fi hfi
  rw [jEffSlot_char, effSlot_char, lookup_map_slots]
  split
  · next hkind =>
    have hskip : fi.kind ≠ .skip := by rcases hkind with h | h <;> simp [h]
    rw [entries_lookup mm o cls ks slots hnd fi hfind hskip]
    cases hl : slots.lookup fi.name with
    | none => rfl
    | some s =>
      rw [Option.bind_some, jSlotOf_wVal o fi s hkind ((hs _ (lookup_mem slots fi.name s hl)).shape hfind hskip).1]
      rfl
  · rfl

theorem jDecKids_nil (mm : MMX) (pcls : Nat) : jDecKids mm pcls [] = some [] := rfl

/-- the defining equation, which Lean fails to generate for this nested recursion (`rw [jDecKids]` errors) -/
theorem jDecKids_cons (mm : MMX) (pcls : Nat) (k : Str) (v : JV) (t : List (Str × JV)) :
    jDecKids mm pcls ((k, v) :: t) =
    match jDecKids mm pcls t with
    | Option.none => Option.none
    | some rest =>
      match mm.find pcls k with
      | some fi =>
        if fi.kind = .cont then
          match v with
          | .null => some rest
          | .obj l => (match jDec mm false k fi.tcls (.obj l) with
            | some n => if fi.many then Option.none else some ((k, n) :: rest)
            | Option.none => Option.none)
          | .arr l => if fi.many then (match jDecList mm k fi.tcls l with
              | some ns => some (ns.map (fun n => (k, n)) ++ rest)
              | Option.none => Option.none) else Option.none
          | _ => Option.none
        else some rest
      | Option.none => some rest := by
  cases v <;> rfl

/-- an entry puts its children in front of those of the entries behind it, whatever these are: `jDecKids [e]` is what
    the entry `e` contributes -/
theorem jDecKids_cons_split (mm : MMX) (pcls : Nat) (e : Str × JV) (t : List (Str × JV)) :
    jDecKids mm pcls (e :: t) = match jDecKids mm pcls t, jDecKids mm pcls [e] with
      | some rest, some here => some (here ++ rest)
      | _, _ => Option.none := by
  obtain ⟨k, v⟩ := e
  rw [jDecKids_cons, jDecKids_cons mm pcls k v [], jDecKids_nil]
  cases jDecKids mm pcls t with
  | none => simp
  | some rest =>
    simp only
    cases mm.find pcls k with
    | none => simp
    | some fi =>
      simp only
      by_cases hc : fi.kind = .cont
      · simp only [hc, if_true]
        cases v with
        | null => simp
        | atom a => simp
        | obj l =>
          simp only
          cases jDec mm false k fi.tcls (.obj l) with
          | none => simp
          | some n => cases fi.many <;> simp
        | arr l =>
          simp only
          cases fi.many with
          | false => simp
          | true =>
            simp only [if_true]
            cases jDecList mm k fi.tcls l <;> simp
      · simp [hc]

theorem jDecKids_append (mm : MMX) (pcls : Nat) (a b : List (Str × JV)) :
    jDecKids mm pcls (a ++ b) = match jDecKids mm pcls a, jDecKids mm pcls b with
      | some ka, some kb => some (ka ++ kb)
      | _, _ => Option.none := by
  induction a with
  | nil => rw [List.nil_append, jDecKids_nil]; cases jDecKids mm pcls b <;> rfl
  | cons e t ih =>
    rw [List.cons_append, jDecKids_cons_split, jDecKids_cons_split mm pcls e t, ih]
    cases jDecKids mm pcls t <;> cases jDecKids mm pcls b <;> cases jDecKids mm pcls [e] <;> simp

theorem jDecKids_flatMap {α : Type} (mm : MMX) (pcls : Nat) (l : List α) {g : α → List (Str × JV)}
    {r : α → List (Str × SNode Str)} (h : ∀ x ∈ l, jDecKids mm pcls (g x) = some (r x)) :
    jDecKids mm pcls (l.flatMap g) = some (l.flatMap r) := by
  induction l with
  | nil => rfl
  | cons x t ih =>
    rw [List.flatMap_cons, jDecKids_append, h x (by simp), ih fun y hy => h y (by simp [hy])]
    rfl

theorem jDecKids_nokids (mm : MMX) (pcls : Nat) (l : List (Str × JV))
    (h : ∀ b ∈ l, ∀ fi, mm.find pcls b.1 = some fi → fi.kind ≠ .cont) : jDecKids mm pcls l = some [] := by
  induction l with
  | nil => rfl
  | cons b t ih =>
    obtain ⟨k, v⟩ := b
    rw [jDecKids_cons, ih fun x hx => h x (by simp [hx])]
    cases hf : mm.find pcls k with
    | none => rfl
    | some fi => simp [h (k, v) (by simp) fi hf]

/-- the children one `_isset` entry gives back -/
def kidPairs (mm : MMX) (o : Opts) (cls : Nat) (kids : List (SNode JRef)) (e : Str × SlotV JRef) : List (Str × SNode Str) :=
  match mm.find cls e.1, e.2 with
  | some fi, .kids => if fi.kind = .cont then (kids.filter fun k => k.via == e.1).map fun k => (e.1, eff mm o false (mapT JRef.tok k)) else []
  | _, _ => []

theorem kidPairs_own (mm : MMX) (o : Opts) (cls : Nat) (kids : List (SNode JRef)) (e : Str × SlotV JRef) :
    ∀ p ∈ kidPairs mm o cls kids e, p.1 = e.1 := by
  intro p hp
  unfold kidPairs at hp
  split at hp
  · split at hp
    · obtain ⟨k, _, rfl⟩ := List.mem_map.mp hp; rfl
    · cases hp
  · cases hp

theorem jslot_kids (mm : MMX) (o : Opts) (cls : Nat) (kids : List (SNode JRef)) (e : Str × SlotV JRef)
    (hs : SlotOKg mm (fun _ => True) cls e)
    (h1 : ∀ fi ∈ mm.feats cls, fi.kind = .cont → fi.many = false → (kids.filter fun k => k.via == fi.name).length ≤ 1)
    (ih : ∀ k ∈ kids, ∀ decl, jDec mm false k.via decl (jEnc mm o false decl k) = some (eff mm o false (mapT JRef.tok k))) :
    jDecKids mm cls (jSlot mm o cls (jEncKids mm o cls kids) e) = some (kidPairs mm o cls kids e) := by
  obtain ⟨f, s⟩ := e
  have ⟨fi, (hf : mm.find cls f = some fi), _⟩ := hs
  obtain ⟨hname, hmem⟩ := find_name mm cls f fi hf
  by_cases hkc : fi.kind = .cont
  · have hsh : Shape fi s := (hs.shape hf (by simp [hkc])).1
    -- the values written for the children under this key, and what they decode to
    have hdec : ∀ k ∈ kids.filter fun k => k.via == f,
        jDec mm false f fi.tcls (jEnc mm o false (declOf mm cls k.via) k) = some (eff mm o false (mapT JRef.tok k)) := by
      intro k hkm
      have hkm' := List.mem_filter.mp hkm
      have hvia : k.via = f := by simpa using hkm'.2
      rw [hvia, declOf_eq hf, ← hvia]
      exact ih k hkm'.1 fi.tcls
    rw [jSlot_eq mm o cls _ f s fi hf (by simp [hkc]), jEncKids_eq_map, filter_key_map]
    cases s with
    | attr1 _ | attrN _ | ref1 _ | refN _ => exact absurd (hkc.symm.trans hsh.1) (by simp)
    | none =>
      simp only [wVal, kidPairs, hf]
      split
      · rw [Option.map_some, Option.toList_some, jDecKids_cons, jDecKids_nil]; simp [hf, hkc]
      · rfl
    | kids =>
      simp only [wVal, kidPairs, hf, hkc, if_true]
      cases hm : fi.many with
      | true =>
        rw [if_pos rfl, Option.map_some, Option.toList_some, jDecKids_cons, jDecKids_nil]
        simp only [hf, hkc, if_true, hm, jDecList_map mm f fi.tcls hdec, List.map_map, List.append_nil]
        rfl
      | false =>
        -- single-valued: the first child is written, and there is at most one
        have hlen := h1 fi hmem hkc hm
        rw [hname] at hlen
        rcases Py.eq_nil_or_singleton hlen with hkf | ⟨k, hkf⟩
        · rw [hkf]; rfl
        · rw [hkf] at hdec ⊢
          obtain ⟨l, hl⟩ := jEnc_obj mm o false (declOf mm cls k.via) k
          have hd := hdec k (by simp)
          rw [hl] at hd
          simp only [Bool.false_eq_true, if_false, List.map_cons, List.map_nil, List.head?_cons, Option.map_some,
            Option.toList_some, hl, jDecKids_cons, jDecKids_nil, hf, hkc, if_true, hm, hd]
  · have hp : kidPairs mm o cls kids (f, s) = [] := by
      unfold kidPairs
      rw [hf]
      cases s <;> simp [hkc]
    rw [hp]
    refine jDecKids_nokids mm cls _ fun b hb fi' hf' => ?_
    rw [jSlot_own mm o cls _ (f, s) b hb, hf] at hf'
    cases hf'
    exact hkc

theorem jcont_roundtrip (mm : MMX) (o : Opts) (hmm : MMOK mm) (cls : Nat) (kids : List (SNode JRef))
    (slots : List (Str × SlotV JRef)) (hnd : (slots.map (·.1)).Nodup)
    (hk2 : ∀ k ∈ kids, ∃ fi, mm.find cls k.via = some fi ∧ fi.kind = .cont ∧ (k.via, SlotV.kids) ∈ slots)
    (fi : FInfo) (hfi : fi ∈ mm.feats cls) (hkc : fi.kind = .cont) :
    ((slots.flatMap (kidPairs mm o cls kids)).filter fun p => p.1 == fi.name).map (·.2)
      = ((kids.map (mapT JRef.tok)).filter fun k => k.via == fi.name).map (eff mm o false) := by
  rw [keyed_view (kidPairs mm o cls kids) (·.1) (kidPairs_own mm o cls kids) slots hnd fi.name,
    filter_via_map (mapT_via _)]
  cases hl : slots.lookup fi.name with
  | none => rw [no_kids_of_feature slots kids hnd hk2 fi.name (by simp [hl])]; rfl
  | some s =>
    simp only [Option.map_some, Option.getD_some, kidPairs, hmm.findSelf cls fi hfi]
    cases s with
    | kids => simp only [hkc, if_true, List.map_map]; rfl
    | _ => rw [no_kids_of_feature slots kids hnd hk2 fi.name (by simp [hl])]; rfl

theorem jDec_obj (mm : MMX) (top : Bool) (via : Str) (decl : Nat) (entries : List (Str × JV)) :
    jDec mm top via decl (.obj entries) =
    match (match entries.lookup kEClass with
      | some v => (atomStr v).bind mm.cidOf
      | Option.none => if top then Option.none else some decl) with
    | Option.none => Option.none
    | some cls =>
      if entries.any (fun e => !isReserved e.1 && (mm.find cls e.1).isNone) then Option.none
      else
        match (mm.feats cls).mapM (fun fi => jEffSlot fi entries), jDecKids mm cls entries with
        | some slots, some kidsByKey =>
          some (.mk (if top then [] else via) cls (((entries.lookup kUuid).bind atomStr).getD [])
            (slots.filterMap id)
            (((mm.feats cls).filter fun fi => fi.kind = .cont).flatMap fun fi =>
              (kidsByKey.filter fun p => p.1 == fi.name).map (·.2)))
        | _, _ => Option.none := rfl

theorem find_ne_reserved {mm : MMX} (hmm : MMJ mm) {c : Nat} {k r : Str} {fi : FInfo} (h : mm.find c k = some fi)
    (hr : isReserved r = true) : k ≠ r := by
  rintro rfl
  rw [hmm.res c k hr] at h; cases h

/-- the reserved keys around the feature entries `E` of a dictionary give the class and the uuid and nothing else: slots
    and children are read from `E` alone -/
theorem jDec_framed (mm : MMX) (hmm : MMJ mm) (top : Bool) (via : Str) (decl cls : Nat) {pre E post : List (Str × JV)}
    (hpre : ∀ e ∈ pre, e.1 = kEClass) (hpost : ∀ e ∈ post, e.1 = kUuid)
    (hcls : (match pre.lookup kEClass with
      | some v => (atomStr v).bind mm.cidOf
      | Option.none => if top then Option.none else some decl) = some cls)
    (hE : ∀ e ∈ E, ∃ fi, mm.find cls e.1 = some fi)
    {sl : FInfo → Option (Str × SlotV Str)} (hsl : ∀ fi ∈ mm.feats cls, jEffSlot fi E = some (sl fi))
    {K : List (Str × SNode Str)} (hK : jDecKids mm cls E = some K) :
    jDec mm top via decl (.obj (pre ++ E ++ post)) =
      some (.mk (if top then [] else via) cls (((post.lookup kUuid).bind atomStr).getD []) ((mm.feats cls).filterMap sl)
        (((mm.feats cls).filter fun fi => fi.kind = .cont).flatMap fun fi => (K.filter fun p => p.1 == fi.name).map (·.2))) := by
  -- where a key can stand: `eClass` in `pre` only, `uuid` in `post` only, a reserved key not in `E`
  have hpreN : ∀ k, k ≠ kEClass → pre.lookup k = Option.none := fun k hk =>
    List.lookup_eq_none_iff.mpr fun p hp => by simpa [hpre p hp] using hk
  have hpostN : ∀ k, k ≠ kUuid → post.lookup k = Option.none := fun k hk =>
    List.lookup_eq_none_iff.mpr fun p hp => by simpa [hpost p hp] using hk
  have hEN : ∀ k, isReserved k = true → E.lookup k = Option.none := fun k hk =>
    List.lookup_eq_none_iff.mpr fun p hp => by
      obtain ⟨fi, hf⟩ := hE p hp
      exact bne_iff_ne.mpr (find_ne_reserved hmm hf hk).symm
  have hc : (pre ++ E ++ post).lookup kEClass = pre.lookup kEClass := by
    rw [List.lookup_append, List.lookup_append, hEN _ kEClass_reserved, hpostN _ kEClass_ne_kUuid, Option.or_none,
      Option.or_none]
  have hu : (pre ++ E ++ post).lookup kUuid = post.lookup kUuid := by
    rw [List.lookup_append, List.lookup_append, hpreN _ kEClass_ne_kUuid.symm, hEN _ kUuid_reserved, Option.or_none,
      Option.none_or]
  have hany : (pre ++ E ++ post).any (fun e => !isReserved e.1 && (mm.find cls e.1).isNone) = false := by
    simp only [List.any_eq_false, List.mem_append]
    rintro e ((he | he) | he)
    · simp [hpre e he, kEClass_reserved]
    · obtain ⟨fi, hf⟩ := hE e he; simp [hf]
    · simp [hpost e he, kUuid_reserved]
  have hslots : (mm.feats cls).mapM (fun fi => jEffSlot fi (pre ++ E ++ post)) = some ((mm.feats cls).map sl) := by
    refine Py.mapM_some_of_forall _ _ _ fun fi hfi => ?_
    -- the name of a feature is no reserved key
    have hfind := hmm.toMMOK.findSelf cls fi hfi
    rw [← hsl fi hfi]
    unfold jEffSlot
    rw [List.lookup_append, List.lookup_append, hpreN fi.name (find_ne_reserved hmm hfind kEClass_reserved),
      hpostN fi.name (find_ne_reserved hmm hfind kUuid_reserved), Option.none_or, Option.or_none]
  have hnokids : ∀ l : List (Str × JV), (∀ e ∈ l, isReserved e.1 = true) → jDecKids mm cls l = some [] :=
    fun l h => jDecKids_nokids mm cls l fun e he fi hf => absurd rfl (find_ne_reserved hmm hf (h e he))
  have hkids : jDecKids mm cls (pre ++ E ++ post) = some K := by
    rw [jDecKids_append, jDecKids_append, hK, hnokids pre fun e he => hpre e he ▸ kEClass_reserved,
      hnokids post fun e he => hpost e he ▸ kUuid_reserved]
    simp
  rw [jDec_obj, hc, hcls]
  simp only [hany, Bool.false_eq_true, if_false, hslots, hkids, hu, List.filterMap_map]
  rfl

theorem key_of_optional {c : Prop} [Decidable c] {k : Str} {v : JV} {e : Str × JV}
    (h : e ∈ (if c then [(k, v)] else [])) : e.1 = k := by
  split at h <;> simp at h
  simp [h]

theorem jdec_enc (mm : MMX) (o : Opts) (hmm : MMJ mm) :
    (n : SNode JRef) → WFJ mm n → ∀ (top : Bool) (decl : Nat) (via' : Str), (top = false → via' = n.via) →
      jDec mm top via' decl (jEnc mm o top decl n) = some (eff mm o top (mapT JRef.tok n)) := by
  intro n hwf
  induction hwf with
  | mk via cls uuid slots kids hc hnd hs _ hk2 h1 ih =>
  intro top decl via' hv
  let ks := jEncKids mm o cls kids
  -- the reserved keys: `eClass` in front when the class is not the declared one, `uuid` behind
  have hcls : (match (if top || decl != cls then [(kEClass, sAtom (mm.cname cls))] else []).lookup kEClass with
      | some v => (atomStr v).bind mm.cidOf
      | Option.none => if top then Option.none else some decl) = some cls := by
    cases hp : (top || decl != cls) with
    | true => simp [sAtom, atomStr, hmm.toMMOK.cid cls hc]
    | false =>
      simp only [Bool.or_eq_false_iff] at hp
      have hd : decl = cls := by simpa using hp.2
      simp [hp.1, hd]
  -- the feature entries of the dictionary: every key a feature, the value under it the one written for its slot
  rw [jEnc, jDec_framed mm hmm top via' decl cls (fun _ => key_of_optional) (fun _ => key_of_optional) hcls
    (key_found (jSlot_own mm o cls ks) hs)
    (jslot_roundtrip mm o hmm.toMMOK cls ks slots hnd hs)
    (jDecKids_flatMap mm cls slots fun e he => jslot_kids mm o cls kids e (hs e he) h1
      fun k hkm d => ih k hkm false d k.via fun _ => rfl)]
  simp only [mapT, mapTL_eq_map]
  rw [← eq_eff mm o top via cls uuid (tokSlots slots) (kids.map (mapT JRef.tok)) (fun _ _ => rfl)
    (jcont_roundtrip mm o hmm.toMMOK cls kids slots hnd hk2)]
  cases top with
  | true => cases o.uuid <;> rfl
  | false => rw [hv rfl]; cases o.uuid <;> rfl

theorem jdec_enc_list (mm : MMX) (o : Opts) (hmm : MMJ mm) :
    (l : List (SNode JRef)) → (∀ k ∈ l, WFJ mm k) → ∀ k ∈ l, ∀ (decl : Nat),
      jDec mm false k.via decl (jEnc mm o false decl k) = some (eff mm o false (mapT JRef.tok k)) :=
  fun _ h k hk decl => jdec_enc mm o hmm k (h k hk) false decl k.via fun _ => rfl

theorem mapRefs_some {ρ σ : Type} (f : ρ → Option σ) (g : ρ → σ) :
    (n : SNode ρ) → AllRefs (fun r => f r = some (g r)) n → mapRefs f n = some (mapT g n) :=
  fun n h => by simpa only [mapT_id] using mapRefs_mapT f id g n h

theorem mapTL_comp {ρ σ τ : Type} (g : ρ → σ) (h : σ → τ) : (l : List (SNode ρ)) → mapTL h (mapTL g l) = mapTL (h ∘ g) l := by
  intro l
  simp only [mapTL_eq_map, List.map_map]
  exact List.map_congr_left fun k _ => mapT_comp g h k

end JDoc
