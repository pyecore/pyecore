import PyecoreModel.Lemmas.XmiDocRefs
/-! Key addressing (uuids, id attributes): which paths `allNodes` gives the objects of a forest, that the loaded forest has
    the same objects at the same paths, and that a key therefore resolves to the object it was written for; then, for
    every addressing mode at once, that the token written for a reference resolves (`token_resolves`) (C08, C09). -/
namespace XDoc
open Xmi

def extP (p : Path) (segs : List (Str × Option Nat)) : Path := { p with segs := p.segs ++ segs }

/-- index of a child in the fragment of its parent, as `kidsFrom` computes it -/
def idxD (mm : MMX) (pcls : Nat) (f : Str) (j : Nat) : Option Nat :=
  if ((mm.find pcls f).map (·.many)).getD true then some j else Option.none

/-- `kidsFrom` numbers a child by its position among the children under the same feature -/
theorem mem_kidsFrom {ρ : Type} (mm : MMX) (p : Path) (pcls : Nat) (x : Path × SNode ρ) (l : List (SNode ρ)) :
    ∀ seen : List Str, x ∈ kidsFrom mm p pcls seen l ↔
      ∃ f i k, (l.filter fun k => k.via == f)[i]? = some k ∧
        x ∈ nodesFrom mm (extP p [(f, idxD mm pcls f (seen.count f + i))]) k := by
  induction l with
  | nil => simp [kidsFrom]
  | cons a t ih =>
    intro seen
    rw [kidsFrom, List.mem_append, ih]
    -- under its own feature `a` comes first and one more `a.via` has been seen; under any other feature nothing changes
    have own : (a :: t).filter (fun k => k.via == a.via) = a :: t.filter fun k => k.via == a.via :=
      List.filter_cons_of_pos (beq_self_eq_true _)
    have other : ∀ f, a.via ≠ f → ((a :: t).filter fun k => k.via == f) = (t.filter fun k => k.via == f) ∧
        (a.via :: seen).count f = seen.count f :=
      fun f hv => ⟨List.filter_cons_of_neg (by simpa using hv), List.count_cons_of_ne hv⟩
    constructor
    · rintro (h | ⟨f, i, k, hk, h⟩)
      · exact ⟨a.via, 0, a, by rw [own]; rfl, h⟩
      · by_cases hv : a.via = f
        · subst hv
          refine ⟨a.via, i + 1, k, by rw [own]; exact hk, ?_⟩
          rwa [List.count_cons_self, Nat.add_right_comm] at h
        · obtain ⟨hf, hc⟩ := other f hv
          exact ⟨f, i, k, hf ▸ hk, hc ▸ h⟩
    · rintro ⟨f, i, k, hk, h⟩
      by_cases hv : a.via = f
      · subst hv
        rw [own] at hk
        cases i with
        | zero => cases hk; exact .inl h
        | succ i => exact .inr ⟨a.via, i, k, hk, by rwa [List.count_cons_self, Nat.add_right_comm]⟩
      · obtain ⟨hf, hc⟩ := other f hv
        exact .inr ⟨f, i, k, hf ▸ hk, hc ▸ h⟩

theorem mem_nodesFrom {ρ : Type} {mm : MMX} {p : Path} {n : SNode ρ} {x : Path × SNode ρ} :
    x ∈ nodesFrom mm p n ↔ x = (p, n) ∨
      ∃ f i k, (kidsVia n f)[i]? = some k ∧ x ∈ nodesFrom mm (extP p [(f, idxD mm n.cls f i)]) k := by
  cases n
  rw [nodesFrom, List.mem_cons, mem_kidsFrom]
  simp only [kidsVia, SNode.kids, SNode.cls, List.count_nil, Nat.zero_add]

theorem mem_allNodes {ρ : Type} {mm : MMX} {roots : List (SNode ρ)} {x : Path × SNode ρ} :
    x ∈ allNodes mm roots ↔ ∃ i r, roots[i]? = some r ∧ x ∈ nodesFrom mm ⟨i, []⟩ r := by
  simp only [allNodes, List.mem_flatMap, Prod.exists, List.mk_mem_zipIdx_iff_getElem?]
  exact exists_comm

theorem nodesFrom_loaded {ρ σ : Type} {P : ρ → Prop} (mm : MMX) (o : Opts) (hmm : MMOK mm) (g : ρ → σ) (n : SNode ρ)
    (h : WFG mm P n) : ∀ (b : Bool) (p q : Path),
      (∀ m', (q, m') ∈ nodesFrom mm p (eff mm o b (mapT g n)) →
        ∃ m b', (q, m) ∈ nodesFrom mm p n ∧ m' = eff mm o b' (mapT g m)) ∧
      (∀ m, (q, m) ∈ nodesFrom mm p n → ∃ b', (q, eff mm o b' (mapT g m)) ∈ nodesFrom mm p (eff mm o b (mapT g n))) := by
  induction h with
  | mk via cls uuid slots kids hc hnd hs hk hk2 h1 ih =>
    intro b p q
    have hkv := kidsVia_loaded mm o hmm g b _ (WFG.mk via cls uuid slots kids hc hnd hs hk hk2 h1)
    have hmem : ∀ {f i k}, (kidsVia (.mk via cls uuid slots kids) f)[i]? = some k → k ∈ kids :=
      fun h => (List.mem_filter.mp (List.mem_of_getElem? h)).1
    constructor
    · intro m' hm'
      rcases mem_nodesFrom.mp hm' with he | ⟨f, i, k', hk', hx⟩
      · cases he
        exact ⟨_, b, mem_nodesFrom.mpr (.inl rfl), rfl⟩
      · rw [hkv, List.getElem?_map] at hk'
        obtain ⟨k, hk0, rfl⟩ := Option.map_eq_some_iff.mp hk'
        obtain ⟨m, b', hm, he⟩ := (ih k (hmem hk0) false _ q).1 m' hx
        exact ⟨m, b', mem_nodesFrom.mpr (.inr ⟨f, i, k, hk0, by simpa using hm⟩), he⟩
    · intro m hm
      rcases mem_nodesFrom.mp hm with he | ⟨f, i, k, hk0, hx⟩
      · cases he
        exact ⟨b, mem_nodesFrom.mpr (.inl rfl)⟩
      · obtain ⟨b', hb'⟩ := (ih k (hmem hk0) false _ q).2 m hx
        exact ⟨b', mem_nodesFrom.mpr (.inr ⟨f, i, _, by rw [hkv, List.getElem?_map, hk0]; rfl, by simpa using hb'⟩)⟩

theorem allNodes_loaded {P : Path → Prop} (mm : MMX) (o : Opts) (hmm : MMOK mm) (g : Path → Str) (roots : List (SNode Path))
    (hwf : ∀ r ∈ roots, WFG mm P r) (q : Path) :
    (∀ m', (q, m') ∈ allNodes mm (roots.map fun r => eff mm o true (mapT g r)) →
      ∃ m b, (q, m) ∈ allNodes mm roots ∧ m' = eff mm o b (mapT g m)) ∧
    (∀ m, (q, m) ∈ allNodes mm roots →
      ∃ b, (q, eff mm o b (mapT g m)) ∈ allNodes mm (roots.map fun r => eff mm o true (mapT g r))) := by
  simp only [mem_allNodes, List.getElem?_map, Option.map_eq_some_iff]
  constructor
  · rintro m' ⟨i, _, ⟨r, hr, rfl⟩, hx⟩
    obtain ⟨m, b, hm, he⟩ := (nodesFrom_loaded mm o hmm g r (hwf r (List.mem_of_getElem? hr)) true _ q).1 m' hx
    exact ⟨m, b, ⟨i, r, hr, hm⟩, he⟩
  · rintro m ⟨i, r, hr, hx⟩
    obtain ⟨b, hb⟩ := (nodesFrom_loaded mm o hmm g r (hwf r (List.mem_of_getElem? hr)) true _ q).2 m hx
    exact ⟨b, i, _, ⟨r, hr, rfl⟩, hb⟩

theorem follow_of_mem {ρ : Type} {P : ρ → Prop} (mm : MMX) (n : SNode ρ) (h : WFG mm P n) :
    ∀ (p q : Path) (m : SNode ρ), (q, m) ∈ nodesFrom mm p n → ∃ segs, q = extP p segs ∧ follow n segs = some m := by
  induction h with
  | mk via cls uuid slots kids hc hnd hs hk hk2 h1 ih =>
    intro p q m hm
    rw [mem_nodesFrom] at hm
    rcases hm with he | ⟨f, i, k, hk0, hx⟩
    · cases he
      exact ⟨[], by simp [extP], rfl⟩
    · have hkm := List.mem_filter.mp (List.mem_of_getElem? hk0)
      obtain ⟨segs, hq, hf⟩ := ih k hkm.1 _ q m hx
      refine ⟨(f, idxD mm cls f i) :: segs, by simpa [extP, SNode.cls] using hq, ?_⟩
      -- `follow` reads a missing index as 0: a single-valued containment holds at most one child
      have hi : (idxD mm cls f i).getD 0 = i := by
        obtain ⟨fi, hfi, hc, _⟩ := hk2 k hkm.1
        have hv : k.via = f := by simpa using hkm.2
        obtain ⟨hname, hmem⟩ := find_name mm cls k.via fi hfi
        rw [hv] at hfi hname
        simp only [idxD, hfi, Option.map_some, Option.getD_some]
        cases hm : fi.many with
        | true => rfl
        | false =>
          have := h1 fi hmem hc hm
          rw [hname] at this
          have := (List.getElem?_eq_some_iff.mp hk0).1
          simp only [kidsVia, SNode.kids] at this
          simp; omega
      simp only [follow, hi, hk0, hf]

theorem nodeAt_of_mem {ρ : Type} {P : ρ → Prop} (mm : MMX) (roots : List (SNode ρ))
    (hwf : ∀ r ∈ roots, WFG mm P r) (p : Path) (n : SNode ρ) (hp : (p, n) ∈ allNodes mm roots) : nodeAt roots p = some n := by
  obtain ⟨i, r, hr, hx⟩ := mem_allNodes.mp hp
  obtain ⟨segs, hq, hf⟩ := follow_of_mem mm r (hwf r (List.mem_of_getElem? hr)) _ p n hx
  subst hq
  simpa [nodeAt, extP, hr] using hf

/-- the keys under which `uuid_dict` knows a node -/
def keysOf {ρ : Type} (mm : MMX) (o : Opts) (n : SNode ρ) : List Str :=
  (if o.uuid then [n.uuid] else []) ++ (match idValue mm n with | some s => [s] | Option.none => [])

/-- id attributes are single-valued and not floating point -/
def IdOK (mm : MMX) : Prop :=
  ∀ c, ∀ fi ∈ mm.feats c, fi.isId = true → fi.kind = .attr → fi.many = false ∧ fi.float = false

/-- what makes a key (a uuid, or the value of an id attribute) usable as a token -/
def UuidTok (u : Str) : Prop := u.contains '#' = false ∧ ∃ c t, u = c :: t ∧ c ≠ '/'

theorem mem_idTable {ρ : Type} {mm : MMX} {o : Opts} {R : List (SNode ρ)} {e : Str × Path} :
    e ∈ idTable mm o R ↔ ∃ m, (e.2, m) ∈ allNodes mm R ∧ e.1 ∈ keysOf mm o m := by
  have hrow : idTable mm o R = (allNodes mm R).flatMap fun pn => (keysOf mm o pn.2).map (·, pn.1) := by
    unfold idTable keysOf
    congr 1; funext ⟨p, n⟩
    cases hi : idValue mm n <;> cases o.uuid <;> simp [hi]
  obtain ⟨k, q⟩ := e
  simp only [hrow, List.mem_flatMap, List.mem_map, Prod.mk.injEq, Prod.exists]
  constructor
  · rintro ⟨_, m, hm, _, hk, rfl, rfl⟩; exact ⟨m, hm, hk⟩
  · rintro ⟨m, hm, hk⟩; exact ⟨q, m, hm, k, hk, rfl, rfl⟩

theorem idValue_mapT {ρ σ : Type} (mm : MMX) (g : ρ → σ) (n : SNode ρ) : idValue mm (mapT g n) = idValue mm n := by
  unfold idValue
  rw [mapT_cls]
  cases (mm.feats n.cls).find? (fun fi => fi.isId && decide (fi.kind = .attr)) with
  | none => rfl
  | some fi =>
    simp only [mapT_slots, lookup_map_slots]
    cases n.slots.lookup fi.name with
    | none => rfl
    | some s => cases s <;> rfl

theorem lookup_eff_slots {ρ : Type} (sd : Bool) (slots : List (Str × SlotV ρ)) (feats : List FInfo)
    (hnd : (feats.map (·.name)).Nodup) (fi : FInfo) (hfi : fi ∈ feats) (e : Str × SlotV ρ) (he : effSlot sd fi slots = some e) :
    (feats.filterMap fun g => effSlot sd g slots).lookup fi.name = some e.2 := by
  -- every entry goes by the name of its feature, so the keys are distinct as the names are
  have hkeys : ((feats.filterMap fun g => effSlot sd g slots).map (·.1)).Nodup :=
    List.pairwise_map.mpr ((List.pairwise_map.mp hnd).filterMap _ fun g g' h b hb b' hb' => by
      rwa [effSlot_name sd g slots b hb, effSlot_name sd g' slots b' hb'])
  refine lookup_of_mem_nodup _ hkeys _ _ (List.mem_filterMap.mpr ⟨fi, hfi, ?_⟩)
  rw [he, ← effSlot_name sd fi slots e he]

/-- loading does not change the id value: an id attribute is written unless it holds its default, and then it is read back
    as that default -/
theorem idValue_eff {ρ : Type} (mm : MMX) (o : Opts) (hmm : MMOK mm) (hid : IdOK mm) (b : Bool) (n : SNode ρ) :
    idValue mm (eff mm o b n) = idValue mm n := by
  unfold idValue
  rw [eff_cls]
  cases hf : (mm.feats n.cls).find? (fun fi => fi.isId && decide (fi.kind = .attr)) with
  | none => rfl
  | some fi =>
    have hmem : fi ∈ mm.feats n.cls := List.mem_of_find?_eq_some hf
    have hp := List.find?_some hf
    simp only [Bool.and_eq_true, decide_eq_true_eq] at hp
    have hmany := (hid n.cls fi hmem hp.1 hp.2).1
    have heff := effSlot_char o.sd fi n.slots
    rw [if_pos (Or.inl hp.2)] at heff
    simp only [eff_slots, lookup_eff_slots o.sd n.slots (mm.feats n.cls) (hmm.nd n.cls) fi hmem _ heff]
    cases hl : n.slots.lookup fi.name with
    | none =>
      simp only [Option.map_none, Option.getD_none, unsetSlot, hp.2, hmany, Bool.false_eq_true, if_false]
      cases hd : fi.dflt with
      | none => rfl
      | some d => simp [veq, hd]
    | some s =>
      cases s with
      | attr1 v =>
        simp only [Option.map_some, Option.getD_some, normSlot]
        by_cases hc : (!o.sd && veq fi v) = true
        · have hv : veq fi v = true := (Bool.and_eq_true _ _ ▸ hc).2
          rw [if_pos ⟨hp.2, hc⟩]
          obtain ⟨d, hd⟩ := dflt_of_veq hv
          rw [hv]; simp [veq, hd]
        · rw [if_neg fun h => hc h.2]
      | _ => rfl

theorem keysOf_loaded {ρ σ : Type} (mm : MMX) (o : Opts) (hmm : MMOK mm) (hid : IdOK mm) (b : Bool) (g : ρ → σ) (n : SNode ρ) :
    keysOf mm o (eff mm o b (mapT g n)) = keysOf mm o n := by
  unfold keysOf
  rw [idValue_eff mm o hmm hid, idValue_mapT]
  cases hu : o.uuid <;> simp [hu]

theorem resolveTok_key {P : Path → Prop} (mm : MMX) (o : Opts) (hmm : MMOK mm) (hid : IdOK mm) (roots : List (SNode Path))
    (g : Path → Str) (parse : Str → Option Path)
    (hwf : ∀ r ∈ roots, WFG mm P r)
    (hdist : ∀ q m q' m' k, (q, m) ∈ allNodes mm roots → (q', m') ∈ allNodes mm roots →
      k ∈ keysOf mm o m → k ∈ keysOf mm o m' → q = q')
    (p : Path) (n : SNode Path) (hp : (p, n) ∈ allNodes mm roots) (k : Str) (hk : k ∈ keysOf mm o n) (hshape : UuidTok k) :
    resolveTok mm o parse (roots.map fun r => eff mm o true (mapT g r)) k = some p := by
  obtain ⟨hnh, c, t, rfl, hc⟩ := hshape
  have hcne : (c != '/') = true := by simpa using hc
  simp only [resolveTok, hnh, Bool.false_eq_true, if_false, hcne, if_true]
  apply lookupId_of_unique
  · obtain ⟨b, hb⟩ := (allNodes_loaded mm o hmm g roots hwf p).2 n hp
    exact mem_idTable.mpr ⟨_, hb, by rw [keysOf_loaded mm o hmm hid]; exact hk⟩
  · intro e he hek
    obtain ⟨m', hm', hk'⟩ := mem_idTable.mp he
    obtain ⟨m, b, hm, rfl⟩ := (allNodes_loaded mm o hmm g roots hwf e.2).1 m' hm'
    rw [keysOf_loaded mm o hmm hid, hek] at hk'
    exact (hdist p n e.2 m _ hp hm hk hk').symm

theorem isTok_shape (ws : Char → Bool) (s : Str) (h : isTok ws s = true) : UuidTok s ∧ Word ws s := by
  unfold isTok at h
  cases s with
  | nil => cases h
  | cons c t =>
    simp only [Bool.and_eq_true, bne_iff_ne, ne_eq, Bool.not_eq_true'] at h
    refine ⟨⟨h.1.2, c, t, rfl, h.1.1⟩, by simp, ?_⟩
    intro x hx
    have := h.2
    rw [List.any_eq_false] at this
    simpa using this x hx

/-- whether an object is addressed by a key (its uuid, or an id value that can stand as a token) and not by its fragment -/
def byKey {ρ : Type} (mm : MMX) (o : Opts) (n : SNode ρ) : Bool :=
  o.uuid || (match idValue mm n with | some s => isTok mm.ws s | Option.none => false)

/-- Every addressing mode.  The token written for a reference to the object at `p` resolves, in the loaded forest, to
    `p`: if it is a key, because the object is one of the forest's (by its canonical path) and no other goes by that key;
    if it is the fragment text, because that text reads back as `p`.  In the first case it is one word if a uuid is, in
    the second if the fragment text is. -/
theorem token_resolves {P : Path → Prop} (mm : MMX) (o : Opts) (hmm : MMOK mm) (hid : IdOK mm) (render : Path → Str)
    (parse : Str → Option Path) (roots : List (SNode Path))
    (hwf : ∀ r ∈ roots, WFG mm P r)
    (hdist : ∀ q m q' m' k, (q, m) ∈ allNodes mm roots → (q', m') ∈ allNodes mm roots →
      k ∈ keysOf mm o m → k ∈ keysOf mm o m' → q = q')
    (p : Path) (n : SNode Path) (hna : nodeAt roots p = some n)
    (hkey : byKey mm o n = true → (p, n) ∈ allNodes mm roots ∧ (o.uuid = true → UuidTok n.uuid))
    (hfrag : byKey mm o n = false → FragOK render parse p) :
    ((o.uuid = true → Word mm.ws n.uuid) → (byKey mm o n = false → Word mm.ws (render p)) →
      Word mm.ws (tokenOf mm o render roots p)) ∧
    resolveTok mm o parse (roots.map fun r => eff mm o true (mapT (tokenOf mm o render roots) r))
      (tokenOf mm o render roots p) = some p := by
  have hk := fun k (hb : byKey mm o n = true) =>
    resolveTok_key mm o hmm hid roots (tokenOf mm o render roots) parse hwf hdist p n (hkey hb).1 k
  have hf := fun (hb : byKey mm o n = false) =>
    resolve_fragment mm o hmm render parse roots (tokenOf mm o render roots) hwf p (Option.isSome_of_eq_some hna) (hfrag hb)
  simp only [tokenOf, hna]
  cases hu : o.uuid with
  | true =>
    have hb : byKey mm o n = true := by simp [byKey, hu]
    exact ⟨fun hw _ => hw rfl, hk n.uuid hb (by simp [keysOf, hu]) ((hkey hb).2 hu)⟩
  | false =>
    simp only [Bool.false_eq_true, if_false]
    cases hi : idValue mm n with
    | none =>
      have hb : byKey mm o n = false := by simp [byKey, hu, hi]
      exact ⟨fun _ hw => hw hb, hf hb⟩
    | some s =>
      simp only
      cases ht : isTok mm.ws s with
      | false =>
        have hb : byKey mm o n = false := by simp [byKey, hu, hi, ht]
        exact ⟨fun _ hw => hw hb, hf hb⟩
      | true =>
        have hb : byKey mm o n = true := by simp [byKey, hu, hi, ht]
        obtain ⟨hs, hw⟩ := isTok_shape mm.ws s ht
        exact ⟨fun _ _ => hw, hk s hb (by simp [keysOf, hu, hi]) hs⟩

theorem idValue_none {ρ : Type} (mm : MMX) (n : SNode ρ) (hid : ∀ c, ∀ fi ∈ mm.feats c, fi.isId = false) :
    idValue mm n = Option.none := by
  unfold idValue
  rw [List.find?_eq_none.mpr fun fi hfi => by simp [hid n.cls fi hfi]]

theorem tokenOf_fragment {ρ : Type} (mm : MMX) (o : Opts) (render : Path → Str) (roots : List (SNode ρ)) (p : Path)
    (hu : o.uuid = false) (hid : ∀ c, ∀ fi ∈ mm.feats c, fi.isId = false) : tokenOf mm o render roots p = render p := by
  unfold tokenOf
  cases nodeAt roots p with
  | none => rfl
  | some n => simp only [hu, idValue_none mm n hid, Bool.false_eq_true, if_false]

/-- a metamodel without id attributes, seen from `token_resolves`: no id value, so the only key is the uuid -/
theorem noId {ρ : Type} (mm : MMX) (o : Opts) (hid : ∀ c, ∀ fi ∈ mm.feats c, fi.isId = false) :
    IdOK mm ∧ ∀ n : SNode ρ, keysOf mm o n = (if o.uuid then [n.uuid] else []) ∧ byKey mm o n = o.uuid :=
  ⟨fun c fi hfi hi => absurd hi (by simp [hid c fi hfi]), fun n => by simp [keysOf, byKey, idValue_none mm n hid]⟩

theorem token_resolves_uuid {P : Path → Prop} (mm : MMX) (o : Opts) (hmm : MMOK mm) (render : Path → Str)
    (parse : Str → Option Path) (roots : List (SNode Path))
    (hu : o.uuid = true) (hid : ∀ c, ∀ fi ∈ mm.feats c, fi.isId = false)
    (hwf : ∀ r ∈ roots, WFG mm P r)
    (htok : ∀ q m, (q, m) ∈ allNodes mm roots → UuidTok m.uuid)
    (hdist : ∀ q m q' m', (q, m) ∈ allNodes mm roots → (q', m') ∈ allNodes mm roots → m.uuid = m'.uuid → q = q')
    (p : Path) (n : SNode Path) (hn : (p, n) ∈ allNodes mm roots) :
    ((o.uuid = true → Word mm.ws n.uuid) → (byKey mm o n = false → Word mm.ws (render p)) →
      Word mm.ws (tokenOf mm o render roots p)) ∧
    resolveTok mm o parse (roots.map fun r => eff mm o true (mapT (tokenOf mm o render roots) r))
      (tokenOf mm o render roots p) = some p := by
  obtain ⟨hidok, hno⟩ := noId (ρ := Path) mm o hid
  refine token_resolves mm o hmm hidok render parse roots hwf ?_ p n (nodeAt_of_mem mm roots hwf p n hn)
    (fun _ => ⟨hn, fun _ => htok p n hn⟩) fun h => by simp [(hno n).2, hu] at h
  intro q m q' m' k hm hm' hk hk'
  simp only [(hno _).1, hu, if_true, List.mem_singleton] at hk hk'
  exact hdist q m q' m' hm hm' (hk ▸ hk')

/-- what a reference must point at: an object of the forest, by its canonical path, whose fragment text is one word over
    plain feature names -/
def Target (mm : MMX) (single : Bool) (roots : List (SNode Path)) (p : Path) : Prop :=
  (∃ n, (p, n) ∈ allNodes mm roots) ∧ (∀ s ∈ p.segs, NameOK s.1 ∧ '#' ∉ s.1) ∧ Word mm.ws (renderPath single p)

theorem token_resolves_target {P : Path → Prop} (mm : MMX) (o : Opts) (hmm : MMOK mm) (hid : IdOK mm) (single : Bool)
    (roots : List (SNode Path)) (hsingle : single = true → roots.length = 1)
    (hwf : ∀ r ∈ roots, WFG mm P r)
    (huuid : o.uuid = true → ∀ q m, (q, m) ∈ allNodes mm roots → UuidTok m.uuid ∧ Word mm.ws m.uuid)
    (hdist : ∀ q m q' m' k, (q, m) ∈ allNodes mm roots → (q', m') ∈ allNodes mm roots →
      k ∈ keysOf mm o m → k ∈ keysOf mm o m' → q = q')
    (p : Path) (h : Target mm single roots p) :
    Word mm.ws (tokenOf mm o (renderPath single) roots p) ∧
    resolveTok mm o parsePath (roots.map fun r => eff mm o true (mapT (tokenOf mm o (renderPath single) roots) r))
      (tokenOf mm o (renderPath single) roots p) = some p := by
  obtain ⟨⟨n, hn⟩, hnames, hword⟩ := h
  have hna := nodeAt_of_mem mm roots hwf p n hn
  have key := token_resolves mm o hmm hid (renderPath single) parsePath roots hwf hdist p n hna
    (fun _ => ⟨hn, fun hu => (huuid hu p n hn).1⟩)
    fun _ => fragOK_renderPath single roots hsingle p (Option.isSome_of_eq_some hna) hnames
  exact ⟨key.1 (fun hu => (huuid hu p n hn).2) fun _ => hword, key.2⟩

end XDoc
