import PyecoreModel.Model.Classes
/-! What the definitions of `Model/Classes.lean` do (C12, C20).  `reach` grows with fuel and graph; "own or inherited" as one existential; the three parts of `Inv` each depend on a few
fields of the state only, the first (`DictOK`) class by class, the last (`NoStale`) instance by instance, so an edit has
to be looked at only where it changes something. -/
namespace Cls

variable {w w' : W} {c c' d : Cid} {i : Nat} {n : Name} {g g' : Cid → List Cid} {k k' : Nat}

theorem mem_reach_succ :
    d ∈ reach g (k + 1) c ↔ d ∈ g c ∨ ∃ b ∈ g c, d ∈ reach g k b := by
  rw [reach, List.mem_append, List.mem_flatMap]

theorem reach_mono_sub (hg : ∀ c d, d ∈ g c → d ∈ g' c) (hk : k ≤ k') (h : d ∈ reach g k c) :
    d ∈ reach g' k' c := by
  induction k generalizing k' c with
  | zero => cases h
  | succ k ih =>
    obtain ⟨j, rfl⟩ : ∃ j, k' = j + 1 := ⟨k' - 1, by omega⟩
    rw [mem_reach_succ] at h ⊢
    exact h.imp (hg c d) fun ⟨b, hb, hd⟩ => ⟨b, hg c b hb, ih (by omega) hd⟩

theorem mem_own_or_inherited {f : Cid → List Name} {l : List Cid} :
    n ∈ f c ++ l.flatMap f ↔ ∃ d, (d = c ∨ d ∈ l) ∧ n ∈ f d := by
  simp only [List.mem_append, List.mem_flatMap, or_and_right, exists_or, exists_eq_left]

theorem mem_allFeatures :
    n ∈ allFeatures w c ↔ ∃ d, (d = c ∨ d ∈ allSupers w c) ∧ n ∈ w.feats d := mem_own_or_inherited

theorem mem_allOps :
    n ∈ allOps w c ↔ ∃ d, (d = c ∨ d ∈ allSupers w c) ∧ n ∈ w.ops d := mem_own_or_inherited

theorem classLookup_iff :
    classLookup w c n = true ↔ ∃ d, (d = c ∨ d ∈ reach w.bases w.nCls c) ∧ n ∈ w.pdict d := by
  simp only [classLookup, Bool.or_eq_true, List.any_eq_true, List.contains_iff_mem, or_and_right, exists_or,
    exists_eq_left]

theorem getattr_eq_descriptor : getattr w i n = .descriptor ↔ classLookup w (w.icls i) n = true := by
  unfold getattr
  cases classLookup w (w.icls i) n <;> cases (w.idict i).contains n <;> simp

theorem getattr_eq_rawHolder :
    getattr w i n = .rawHolder ↔ classLookup w (w.icls i) n = false ∧ n ∈ w.idict i := by
  unfold getattr
  rw [← List.contains_iff_mem]
  cases classLookup w (w.icls i) n <;> cases (w.idict i).contains n <;> simp

theorem allFeatures_mono (h : n ∈ allFeatures w c) (hn : w.nCls ≤ w'.nCls)
    (hf : ∀ c n, n ∈ w.feats c → n ∈ w'.feats c) (hs : ∀ c d, d ∈ w.supers c → d ∈ w'.supers c) :
    n ∈ allFeatures w' c := by
  rw [mem_allFeatures] at h ⊢
  obtain ⟨d, hd, hm⟩ := h
  exact ⟨d, hd.imp_right (reach_mono_sub hs hn), hf d n hm⟩

theorem mem_update_of_mem {α : Type} {f : Cid → List α} {l : List α} {a : α} (hl : ∀ a ∈ f c, a ∈ l)
    (h : a ∈ f c') : a ∈ if c' = c then l else f c' := by
  split
  · subst c'; exact hl a h
  · exact h

/-- what `Sync` and `Disj` say of one class: dictionary `P`, features `F`, operations `O` -/
def DictOK (P F O : List Name) : Prop := ∀ m, (m ∈ P ↔ m ∈ F ∨ m ∈ O) ∧ ¬ (m ∈ F ∧ m ∈ O)

variable {P F O : List Name}

theorem DictOK.symm (h : DictOK P F O) : DictOK P O F :=
  fun m => ⟨(h m).1.trans or_comm, fun ⟨a, b⟩ => (h m).2 ⟨b, a⟩⟩

theorem DictOK.add (h : DictOK P F O) (hn : n ∉ P) : DictOK (P ++ [n]) (F ++ [n]) O := by
  intro m
  simp only [List.mem_append, List.mem_singleton, (h m).1, or_right_comm, true_and]
  rintro ⟨hf | rfl, ho⟩
  · exact (h m).2 ⟨hf, ho⟩
  · exact hn ((h m).1.2 (.inr ho))

theorem DictOK.remove (h : DictOK P F O) (hn : n ∈ F) : DictOK (P.filter (· ≠ n)) (F.filter (· ≠ n)) O := by
  intro m
  have hO : m ∈ O → m ≠ n := by rintro ho rfl; exact (h m).2 ⟨hn, ho⟩
  simp only [List.mem_filter, decide_eq_true_eq, (h m).1, or_and_right, and_iff_left_of_imp hO, true_and]
  exact fun ⟨hf, ho⟩ => (h m).2 ⟨hf.1, ho⟩

theorem inv_iff :
    Inv w ↔ (∀ c, DictOK (w.pdict c) (w.feats c) (w.ops c)) ∧ w.bases = w.supers ∧ NoStale w :=
  ⟨fun ⟨⟨hs, hb⟩, hd, hn⟩ => ⟨fun c m => ⟨hs c m, hd c m⟩, hb, hn⟩,
   fun ⟨hk, hb, hn⟩ => ⟨⟨fun c m => (hk c m).1, hb⟩, fun c m => (hk c m).2, hn⟩⟩

theorem dictOK_update {p f o : Cid → List Name} (h : ∀ c, DictOK (p c) (f c) (o c)) (c : Cid) {P F : List Name}
    (hc : DictOK P F (o c)) (c' : Cid) :
    DictOK (if c' = c then P else p c') (if c' = c then F else f c') (o c') := by
  split
  · subst c'; exact hc
  · exact h c'

theorem purge_noStale (w : W) : NoStale (purge w) :=
  fun _ _ h => List.contains_iff_mem.1 (List.mem_filter.1 h).2

theorem inv_purge (hk : ∀ c, DictOK (w.pdict c) (w.feats c) (w.ops c)) (hb : w.bases = w.supers) :
    Inv (purge w) := inv_iff.2 ⟨hk, hb, purge_noStale w⟩

theorem NoStale.edit_inst (h : NoStale w) (hF : allFeatures w' = allFeatures w) (i : Nat) {l : List Name}
    (hoff : ∀ j, j ≠ i → w'.icls j = w.icls j ∧ w'.idict j = w.idict j)
    (hat : w'.icls i = c ∧ w'.idict i = l) (hi : ∀ n ∈ l, n ∈ allFeatures w c) : NoStale w' := by
  intro j n hj
  rw [hF]
  by_cases e : j = i
  · rw [e, hat.1]; rw [e, hat.2] at hj; exact hi n hj
  · obtain ⟨h1, h2⟩ := hoff j e
    rw [h1]; rw [h2] at hj; exact h j n hj

end Cls
