import PyecoreModel.Lemmas.CommandsInverse
/-! The command stack (C06): one letter at a time from the one-command law, then words: k commands, k undos, k redos; at the
end the computable forms of `okL`, `Covered` and `coveredL` on which the examples of C06 are decided. -/
namespace Store
open Py

/-- the cursor never passes the end of the stack -/
def CStack.OK (cs : CStack) : Prop := cs.n ≤ cs.stack.length

/-- one letter: the stack and the state afterwards -/
def nextL (mm : MM) (p : CStack × St) (l : Letter) : CStack × St := ((cstep mm p.1 p.2 l).1, (cstep mm p.1 p.2 l).2.1)

def runL (mm : MM) (p : CStack × St) (ls : List Letter) : CStack × St := ls.foldl (nextL mm) p

/-- every letter of the word reports success -/
def okL (mm : MM) : CStack × St → List Letter → Prop
  | _, [] => True
  | p, l :: t => (cstep mm p.1 p.2 l).2.2 = "ok" ∧ okL mm (nextL mm p l) t

theorem runL_append (mm : MM) (p : CStack × St) (a b : List Letter) : runL mm p (a ++ b) = runL mm (runL mm p a) b := by
  simp [runL, List.foldl_append]

theorem okL_append (mm : MM) (a b : List Letter) : ∀ p, okL mm p (a ++ b) ↔ okL mm p a ∧ okL mm (runL mm p a) b := by
  induction a with
  | nil => intro p; simp [okL, runL]
  | cons l t ih =>
    intro p
    simp only [List.cons_append, okL, ih, runL, List.foldl_cons, and_assoc]

/-- Case analysis on a letter, once for all facts about `cstep`: nothing happened; or a command raised midway (the
stack is as it was, the state is where `exec` or `undo` left it) — neither reports success —; or an execute pushed the command
on the applied part of the stack, an undo moved the cursor back over the entry it undid, a redo forward over the entry it
redid. -/
theorem cstep_cases (mm : MM) (P : CStack × St × String → Prop) (cs : CStack) (s : St) (l : Letter)
    (hno : ∀ msg, msg ≠ "ok" → P (cs, s, msg))
    (hraise : ∀ (c : Cmd) s' msg, msg ≠ "ok" → s' = (c.exec mm s).1 ∨ s' = (c.undo mm s).1 → P (cs, s', msg))
    (hexec : ∀ sp c r, l = .exec sp → prepare mm s sp = .ok c → (c.exec mm s).2 = .ok r →
      P ({ stack := cs.stack.take cs.n ++ [c.after mm s], n := cs.n + 1 }, (c.exec mm s).1, "ok"))
    (hundo : ∀ c r, l = .undo → cs.n ≠ 0 → cs.stack[cs.n - 1]? = some c → (c.undo mm s).2 = .ok r →
      P ({ cs with n := cs.n - 1 }, (c.undo mm s).1, "ok"))
    (hredo : ∀ c r, l = .redo → cs.stack[cs.n]? = some c → (c.redo mm s).2 = .ok r →
      P ({ stack := cs.stack.set cs.n (c.after mm s), n := cs.n + 1 }, (c.redo mm s).1, "ok")) :
    P (cstep mm cs s l) := by
  cases l with
  | exec sp =>
    simp only [cstep]
    cases hp : prepare mm s sp with
    | cannot => exact hno _ (by decide)
    | raises => exact hno _ (by decide)
    | ok c =>
      simp only
      cases he : (c.exec mm s).2 with
      | error e => exact hraise c _ _ (by decide) (.inl rfl)
      | ok r => exact hexec sp c r rfl hp he
  | undo =>
    simp only [cstep]
    split
    · exact hno _ (by decide)
    rename_i h0
    cases hc : cs.stack[cs.n - 1]? with
    | none => exact hno _ (by decide)
    | some c =>
      simp only
      cases hu : (c.undo mm s).2 with
      | error e => exact hraise c _ _ (by decide) (.inr rfl)
      | ok r => exact hundo c r rfl h0 hc hu
  | redo =>
    simp only [cstep]
    cases hc : cs.stack[cs.n]? with
    | none => exact hno _ (by decide)
    | some c =>
      simp only
      cases hr : (c.redo mm s).2 with
      | error e => exact hraise c _ _ (by decide) (.inl rfl)
      | ok r => exact hredo c r rfl hc hr

theorem exec_ok_shape (mm : MM) (cs : CStack) (s : St) (sp : Spec) (h : (cstep mm cs s (.exec sp)).2.2 = "ok") :
    ∃ c r, prepare mm s sp = .ok c ∧ (c.exec mm s).2 = .ok r ∧
      cstep mm cs s (.exec sp) = ({ stack := cs.stack.take cs.n ++ [c.after mm s], n := cs.n + 1 }, (c.exec mm s).1, "ok") :=
  cstep_cases mm (fun r => r.2.2 = "ok" → ∃ c r', prepare mm s sp = .ok c ∧ (c.exec mm s).2 = .ok r' ∧
      r = ({ stack := cs.stack.take cs.n ++ [c.after mm s], n := cs.n + 1 }, (c.exec mm s).1, "ok")) cs s (.exec sp)
    (hno := fun _ hm h => absurd h hm) (hraise := fun _ _ _ hm _ h => absurd h hm)
    (hexec := fun _ c r hl hp he _ => by cases hl; exact ⟨c, r, hp, he, rfl⟩)
    (hundo := fun _ _ hl => by cases hl) (hredo := fun _ _ hl => by cases hl) h

theorem cstep_undo_ok (mm : MM) {st : List Cmd} {n : Nat} {s s' : St} {c : Cmd} {r : Option PyVal} (hget : st[n]? = some c)
    (hu : c.undo mm s' = (s, .ok r)) : cstep mm ⟨st, n + 1⟩ s' .undo = (⟨st, n⟩, s, "ok") := by
  simp [cstep, hget, hu]

theorem cstep_redo_ok (mm : MM) {st : List Cmd} {n : Nat} {s s' : St} {c : Cmd} {r : Option PyVal} (hget : st[n]? = some c)
    (hre : c.redo mm s = (s', .ok r)) (haft : c.after mm s = c) : cstep mm ⟨st, n⟩ s .redo = (⟨st, n + 1⟩, s', "ok") := by
  simp only [cstep, hget, hre, haft, set_same hget]

theorem stack_roundtrip (mm : MM) (cs : CStack) (s : St) (hok : cs.OK) (sp : Spec)
    (hlaw : ∀ c r, prepare mm s sp = .ok c → (c.exec mm s).2 = .ok r →
      (∃ r', (c.after mm s).undo mm (c.exec mm s).1 = (s, .ok r')) ∧ (c.after mm s).redo mm s = c.exec mm s)
    (h1 : (cstep mm cs s (.exec sp)).2.2 = "ok") :
    let r1 := cstep mm cs s (.exec sp)
    let r2 := cstep mm r1.1 r1.2.1 .undo
    let r3 := cstep mm r2.1 r2.2.1 .redo
    r2.2.2 = "ok" ∧ r2.2.1 = s ∧ r2.1 = { r1.1 with n := cs.n } ∧ r3.2.2 = "ok" ∧ r3.2.1 = r1.2.1 ∧ r3.1 = r1.1 := by
  intro r1 r2 r3
  obtain ⟨c, r, hp, he, hstep⟩ := exec_ok_shape mm cs s sp h1
  obtain ⟨⟨r', hu⟩, hre⟩ := hlaw c r hp he
  have hget := take_append_getElem? (c.after mm s) hok
  have hr1 : r1 = _ := hstep
  have hr2 : r2 = (⟨cs.stack.take cs.n ++ [c.after mm s], cs.n⟩, s, "ok") := by
    show cstep mm r1.1 r1.2.1 .undo = _
    rw [hr1]; exact cstep_undo_ok mm hget hu
  have hr3 : r3 = r1 := by
    show cstep mm r2.1 r2.2.1 .redo = _
    rw [hr2, hr1]; exact cstep_redo_ok mm hget (by rw [hre]; exact Prod.ext rfl he) (after_after mm s c)
  rw [hr3, hr2, hr1]
  simp

/-- the coverage condition along a word: each command is judged in the state it is executed in -/
def coveredL (mm : MM) : CStack × St → List Spec → Prop
  | _, [] => True
  | p, sp :: t => Covered mm p.2 sp ∧ coveredL mm (nextL mm p (.exec sp)) t

/-- `C06_k_undo_redo` with the two conjuncts in front that carry its induction: the cursor after the word, and the part of
    the stack below the old cursor untouched. -/
theorem k_undo_redo (mm : MM) (hwf : mm.WF) (hwft : mm.WFT) : ∀ (sps : List Spec) (cs : CStack) (s : St),
    cs.OK → Good mm s → coveredL mm (cs, s) sps → okL mm (cs, s) (sps.map .exec) →
    (runL mm (cs, s) (sps.map .exec)).1.n = cs.n + sps.length ∧
    (runL mm (cs, s) (sps.map .exec)).1.stack.take cs.n = cs.stack.take cs.n ∧
    okL mm (runL mm (cs, s) (sps.map .exec)) (List.replicate sps.length .undo) ∧
    runL mm (runL mm (cs, s) (sps.map .exec)) (List.replicate sps.length .undo)
      = ({ (runL mm (cs, s) (sps.map .exec)).1 with n := cs.n }, s) ∧
    okL mm ({ (runL mm (cs, s) (sps.map .exec)).1 with n := cs.n }, s) (List.replicate sps.length .redo) ∧
    runL mm ({ (runL mm (cs, s) (sps.map .exec)).1 with n := cs.n }, s) (List.replicate sps.length .redo)
      = runL mm (cs, s) (sps.map .exec) := by
  intro sps
  induction sps with
  | nil =>
    simp [runL, okL]
  | cons sp rest ih =>
    intro cs s hok hgood hplain hall
    simp only [coveredL] at hplain
    obtain ⟨h1, hrest⟩ := hall
    obtain ⟨c, r, hprep, hex, hstep⟩ := exec_ok_shape mm cs s sp h1
    -- the state and stack after the first command
    have hnext : nextL mm (cs, s) (.exec sp)
        = ({ stack := cs.stack.take cs.n ++ [c.after mm s], n := cs.n + 1 }, (c.exec mm s).1) := by
      simp only [nextL, hstep]
    rw [hnext] at hrest hplain
    have hlen : (cs.stack.take cs.n).length = cs.n := List.length_take_of_le hok
    have hgood' : Good mm (c.exec mm s).1 := good_exec mm hwf hwft s hgood hprep
    obtain ⟨hn, hpre, hokU, hrunU, hokR, hrunR⟩ :=
      ih { stack := cs.stack.take cs.n ++ [c.after mm s], n := cs.n + 1 } (c.exec mm s).1 (by simp [CStack.OK, hlen])
        hgood' hplain.2 hrest
    -- the one-step law for the first command
    obtain ⟨⟨r', hu⟩, hre⟩ := covered_inverse mm hwf s hgood sp hplain.1 c hprep r hex
    simp only [List.map_cons, runL, List.foldl_cons, hnext] at hn hpre hokU hrunU hokR hrunR ⊢
    generalize List.foldl (nextL mm) ({ stack := cs.stack.take cs.n ++ [c.after mm s], n := cs.n + 1 }, (c.exec mm s).1)
      (rest.map Letter.exec) = P at hn hpre hokU hrunU hokR hrunR ⊢
    -- the first command sits at position cs.n of the final stack
    have htake : P.1.stack.take (cs.n + 1) = cs.stack.take cs.n ++ [c.after mm s] := by
      rw [hpre]; exact List.take_of_length_le (by rw [List.length_append, hlen]; simp)
    have hget : P.1.stack[cs.n]? = some (c.after mm s) := by
      rw [← List.getElem?_take_of_succ, htake]; exact take_append_getElem? _ hok
    have hlast := cstep_undo_ok mm hget hu
    have hfirst := cstep_redo_ok mm hget (by rw [hre]; exact Prod.ext rfl hex) (after_after mm s c)
    refine ⟨by rw [List.length_cons]; omega, ?_, ?_, ?_, ?_, ?_⟩
    · have := congrArg (List.take cs.n) htake
      rw [List.take_take, Nat.min_eq_left (by omega)] at this
      rw [this, List.take_left' hlen]
    · rw [List.length_cons, List.replicate_succ', okL_append]
      refine ⟨hokU, ?_⟩
      rw [runL, hrunU]
      simp only [okL, hlast, and_true]
    · rw [List.length_cons, List.replicate_succ', List.foldl_append, hrunU]
      simp only [List.foldl_cons, List.foldl_nil, nextL, hlast]
    · rw [List.length_cons, List.replicate_succ]
      simp only [okL, hfirst, nextL, true_and]
      exact hokR
    · rw [List.length_cons, List.replicate_succ]
      simp only [List.foldl_cons, nextL, hfirst]
      exact hrunR

instance okL.dec (mm : MM) : ∀ (p : CStack × St) (ls : List Letter), Decidable (okL mm p ls)
  | _, [] => isTrue trivial
  | p, l :: t => by
    unfold okL
    exact @instDecidableAnd _ _ _ (okL.dec mm _ t)

/-- `Covered`, computed -/
def coveredB (mm : MM) (s : St) (sp : Spec) : Bool :=
  (!(mm.feat sp.fid).isRef || (mm.feat sp.fid).opp.isNone) &&
  (!(mm.feat sp.fid).cont || match sp.offers with
    | some (.obj y) => (s.rs sp.oid sp.fid).contains y || ((s.cont y).isNone && (s.eres y).isNone)
    | _ => true)

theorem covered_of_B (mm : MM) (s : St) (sp : Spec) (h : coveredB mm s sp = true) : Covered mm s sp := by
  simp only [coveredB, Bool.and_eq_true, Bool.or_eq_true, Bool.not_eq_true', Option.isNone_iff_eq_none] at h
  refine ⟨h.1, ?_⟩
  intro hc y hy
  rcases h.2 with h2 | h2
  · rw [hc] at h2; cases h2
  · rw [hy] at h2
    simp only [Bool.or_eq_true, List.contains_iff_mem, Bool.and_eq_true, Option.isNone_iff_eq_none] at h2
    exact h2

def coveredLB (mm : MM) : CStack × St → List Spec → Bool
  | _, [] => true
  | p, sp :: t => coveredB mm p.2 sp && coveredLB mm (nextL mm p (.exec sp)) t

theorem coveredL_of_B (mm : MM) : ∀ (sps : List Spec) (p : CStack × St), coveredLB mm p sps = true → coveredL mm p sps
  | [], _, _ => trivial
  | sp :: t, p, h => by
    simp only [coveredLB, Bool.and_eq_true] at h
    exact ⟨covered_of_B mm p.2 sp h.1, coveredL_of_B mm t _ h.2⟩

end Store
