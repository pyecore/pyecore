import PyecoreModel.Model.Operations
/-! What the definitions of `Model/Operations.lean` do (C13, C20).  A table of strings none of which ends in `c` and the strings `k ++ c` (for the keyword table); the generated signature
with and without a declared `self`; binding to required parameters followed by optional ones;
`reflParams` by recursion on the argument list, and `entrySig` as the code of `reflParams`; when `callStub` reaches the body
(`callStub_eq_notImplemented`) and what `promote` reflects (`promote_eq`). -/
namespace Ops

theorem all_push_not_contains (L : List String) (c : Char) (h : ∀ k ∈ L, k.endsWith c = false) :
    L.all (fun k => !L.contains (k ++ String.singleton c)) = true := by
  rw [List.all_eq_true]
  intro k _
  rw [Bool.not_eq_true', List.contains_eq_mem, decide_eq_false_iff_not]
  intro hm
  have := h _ hm
  simp [String.endsWith_char_eq_getLast?] at this

theorem sigOf_noself (op : Op) (h : ∀ p ∈ op.params, p.name ≠ "self") :
    sigOf op = ⟨"self", false⟩ :: op.params.map paramCode := by
  simp only [sigOf]
  split
  · rename_i heq
    obtain ⟨p, _, hp, hpc, _⟩ := List.map_eq_cons_iff.1 heq
    exact absurd (congrArg SigP.name hpc) (h p (hp ▸ List.mem_cons_self))
  · rfl

theorem sigOf_self (name : String) (t : List Param) :
    sigOf ⟨name, ⟨"self", true⟩ :: t⟩ = (⟨"self", true⟩ :: t).map paramCode := rfl

theorem dflt_map_paramCode {ps : List Param} {r : Bool} (h : ∀ p ∈ ps, p.required = r) :
    ∀ p ∈ ps.map paramCode, p.dflt = !r :=
  List.forall_mem_map.2 fun q hq => congrArg (!·) (h q hq)

variable {a b : List SigP}

theorem noReqAfterDflt_append (ha : ∀ p ∈ a, p.dflt = false) (hb : ∀ p ∈ b, p.dflt = true) :
    noReqAfterDflt (a ++ b) = true := by
  induction a with
  | cons q t ih =>
    rw [List.forall_mem_cons] at ha
    simp [noReqAfterDflt, ha.1, ih ha.2]
  | nil =>
    rw [List.nil_append]
    induction b with
    | nil => rfl
    | cons q t ih =>
      rw [List.forall_mem_cons] at hb
      simpa [noReqAfterDflt, hb.1, ih hb.2] using hb.2

theorem nRequired_append (ha : ∀ p ∈ a, p.dflt = false) (hb : ∀ p ∈ b, p.dflt = true) :
    nRequired (a ++ b) = a.length := by
  rw [nRequired, List.filter_append, List.filter_eq_self.2 fun p hp => by rw [ha p hp]; rfl,
    List.filter_eq_nil_iff.2 fun p hp => by rw [hb p hp]; decide, List.append_nil]

theorem accepts_append (ha : ∀ p ∈ a, p.dflt = false) (hb : ∀ p ∈ b, p.dflt = true) (k : Nat) :
    accepts (a ++ b) k = true ↔ a.length ≤ k ∧ k ≤ a.length + b.length := by
  rw [accepts, nRequired_append ha hb, Bool.and_eq_true, decide_eq_true_eq, decide_eq_true_eq, List.length_append]

theorem callStub_eq_notImplemented {op : Op} {k : Nat} :
    callStub op k = .notImplemented ↔ accepts (bound (sigOf op)) k = true := by
  unfold callStub; split <;> simp [*]

theorem promote_eq (e : Entry) :
    promote e = if e.kind = .function ∧ e.key.startsWith "__" = false ∧ e.args.head? = some "self"
      then some ⟨e.fname, reflParams e.args e.ndefaults⟩ else none := by
  unfold promote
  cases e.args <;> by_cases e.kind = .function <;> cases e.key.startsWith "__" <;> simp [*]

/-- a parameter is required when at least `nd` parameters follow it -/
theorem reflParams_cons (a : String) (rest : List String) (nd : Nat) :
    reflParams (a :: rest) nd = ⟨a, decide (nd ≤ rest.length)⟩ :: reflParams rest nd := by
  -- position `i + 1` of `a :: rest` and position `i` of `rest` are both required when `i + nd < rest.length`
  simp only [reflParams, List.length_cons, List.range_succ_eq_map, List.zipWith_cons_cons, List.zipWith_map_left,
    Nat.lt_sub_iff_add_lt, Nat.zero_add, Nat.add_right_comm _ 1 nd, Nat.lt_succ_iff,
    Nat.add_one_le_iff]

theorem reflParams_names (args : List String) (nd : Nat) : (reflParams args nd).map (·.name) = args := by
  induction args with
  | nil => rfl
  | cons a rest ih => rw [reflParams_cons, List.map_cons, ih]

theorem reflParams_append (req opt : List String) :
    reflParams (req ++ opt) opt.length = req.map (⟨·, true⟩) ++ opt.map (⟨·, false⟩) := by
  have hopt : ∀ l : List String, l.length ≤ opt.length → reflParams l opt.length = l.map (⟨·, false⟩) := by
    intro l
    induction l with
    | nil => intro _; rfl
    | cons a t ih =>
      intro h
      rw [reflParams_cons, ih (Nat.le_of_succ_le h), decide_eq_false (Nat.not_le_of_lt h), List.map_cons]
  induction req with
  | nil => exact hopt opt (Nat.le_refl _)
  | cons a t ih => rw [List.cons_append, reflParams_cons, ih, List.length_append, decide_eq_true (Nat.le_add_left _ _)]; rfl

theorem reflParams_self {req opt : List Param} (hr : ∀ p ∈ req, p.required = true) (ho : ∀ p ∈ opt, p.required = false) :
    reflParams ((req ++ opt).map (·.name)) ((req ++ opt).filter (!·.required)).length = req ++ opt := by
  have hm (l : List Param) (r : Bool) (h : ∀ p ∈ l, p.required = r) : (l.map (·.name)).map (⟨·, r⟩) = l := by
    rw [List.map_map]
    exact (List.map_congr_left fun p hp => by rw [← h p hp]; rfl).trans (List.map_id l)
  rw [List.filter_append, List.filter_eq_nil_iff.2 fun p hp => by rw [hr p hp]; decide,
    List.filter_eq_self.2 fun p hp => by rw [ho p hp]; rfl, List.nil_append, List.map_append,
    ← List.length_map (f := (·.name)) (as := opt), reflParams_append, hm req true hr, hm opt false ho]

theorem entrySig_eq (e : Entry) : entrySig e = (reflParams e.args e.ndefaults).map paramCode := by
  rw [reflParams, List.map_zipWith]
  simp only [entrySig, paramCode, Nat.not_lt.symm, decide_not]

end Ops
