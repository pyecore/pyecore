import PyecoreModel.Model.OSet
import PyecoreModel.Lemmas.PyList
/-! Every patched `OrderedSet` operation acts on `items` as the Python-list specification does and
preserves `MapOK` (C04). -/
namespace Py.OSet
variable {α : Type}

/-- The map being the position function already rules out duplicates. -/
theorem MapOK.of_iff {s : OSet α} (h : ∀ k i, s.map k = some i ↔ s.items[i]? = some k) : s.MapOK := by
  refine ⟨List.pairwise_iff_getElem.2 fun i j hi hj hij e => ?_, h⟩
  have hi' := (h _ i).2 (List.getElem?_eq_getElem hi)
  rw [e, (h _ j).2 (List.getElem?_eq_getElem hj)] at hi'
  exact Nat.ne_of_lt hij (Option.some.inj hi').symm

theorem MapOK.mem_iff {s : OSet α} (h : s.MapOK) {k : α} : s.contains k = true ↔ k ∈ s.items := by
  simp only [OSet.contains, Option.isSome_iff_exists, h.2, List.mem_iff_getElem?]

theorem MapOK.uniq {s : OSet α} (h : s.MapOK) {k : α} {i j : Nat}
    (hi : s.items[i]? = some k) (hj : s.items[j]? = some k) : i = j :=
  Option.some.inj (((h.2 k i).2 hi).symm.trans ((h.2 k j).2 hj))

theorem empty_mapOK : (OSet.empty : OSet α).MapOK :=
  .of_iff fun k i => by simp [OSet.empty]

variable [DecidableEq α]

/-- Inserting an absent `key` at `idx`; `up` has to shift exactly the positions from `idx` on. -/
theorem MapOK.insertAt {s : OSet α} (h : s.MapOK) {idx : Nat} (hidx : idx ≤ s.items.length) {key : α}
    (hkey : key ∉ s.items) (up : Nat → Nat) (hup : ∀ j < s.items.length, up j = if j ≥ idx then j + 1 else j) :
    MapOK ⟨insertAt s.items idx key, fun k => if k = key then some idx else (s.map k).map up⟩ := by
  refine .of_iff fun k i => ?_
  dsimp only
  rw [getElem?_insertAt_eq_some hidx]
  by_cases hk : k = key
  · subst hk
    have : ∀ j, s.items[j]? ≠ some k := fun j hj => hkey (List.mem_of_getElem? hj)
    simp [this, eq_comm]
  · simp only [hk, if_false, and_false, false_or, Option.map_eq_some_iff, h.2]
    exact exists_congr fun j => and_congr_right fun hj => by
      rw [hup j (List.getElem?_eq_some_iff.1 hj).1]; exact eq_comm

/-- Removing position `p` (holding `elem`); `down` has to shift exactly the positions above `p`
(what it does at `p` itself is irrelevant: that key is deleted). -/
theorem MapOK.eraseIdx {s : OSet α} (h : s.MapOK) {p : Nat} {elem : α} (hget : s.items[p]? = some elem)
    (down : Nat → Nat) (hdown : ∀ q, q ≠ p → down q = if q > p then q - 1 else q) :
    MapOK ⟨s.items.eraseIdx p, fun k => if k = elem then none else (s.map k).map down⟩ := by
  refine .of_iff fun k j => ?_
  dsimp only
  rw [getElem?_eraseIdx_eq_some]
  by_cases hk : k = elem
  · subst hk
    rw [if_pos rfl]
    exact ⟨nofun, fun ⟨q, hq, hg, _⟩ => absurd (h.uniq hg hget) hq⟩
  · have hne : ∀ q, s.items[q]? = some k → q ≠ p := fun q hq e => hk (Option.some.inj (by rw [← hq, e, hget]))
    simp only [if_neg hk, Option.map_eq_some_iff, h.2]
    exact exists_congr fun q => ⟨fun ⟨hq, e⟩ => ⟨hne q hq, hq, by rw [← e, hdown q (hne q hq)]⟩,
      fun ⟨hqp, hq, e⟩ => ⟨hq, by rw [e, hdown q hqp]⟩⟩

theorem add_spec (s : OSet α) (k : α) (h : s.MapOK) :
    (s.add k).items = (if s.items.contains k then s.items else s.items ++ [k]) ∧ (s.add k).MapOK := by
  unfold OSet.add
  by_cases hk : k ∈ s.items
  · rw [if_pos (h.mem_iff.2 hk), if_pos (List.contains_iff_mem.2 hk)]; exact ⟨rfl, h⟩
  · rw [if_neg (mt h.mem_iff.1 hk), if_neg (mt List.contains_iff_mem.1 hk)]
    have := h.insertAt (Nat.le_refl _) hk id fun j hj => (if_neg (Nat.not_le.2 hj)).symm
    exact ⟨rfl, by simpa [Py.insertAt] using this⟩

theorem insert_spec (s : OSet α) (i : Int) (k : α) (h : s.MapOK) :
    (s.insert i k).items = (if s.items.contains k then s.items else pyInsert s.items i k) ∧ (s.insert i k).MapOK := by
  unfold OSet.insert
  by_cases hk : k ∈ s.items
  · rw [if_pos (h.mem_iff.2 hk), if_pos (List.contains_iff_mem.2 hk)]; exact ⟨rfl, h⟩
  · rw [if_neg (mt h.mem_iff.1 hk), if_neg (mt List.contains_iff_mem.1 hk)]
    exact ⟨rfl, h.insertAt clampIns_le hk _ fun _ _ => rfl⟩

/-- `pop` is `pyPop` on `items`; the invariant is needed only for that of the new state. -/
theorem pop_spec (s : OSet α) (i : Int) :
    (pyPop s.items i = none ∧ ∃ e, s.pop i = .error e) ∨
    ∃ s' y, pyPop s.items i = some (s'.items, y) ∧ s.pop i = .ok (s', y) ∧ (s.MapOK → s'.MapOK) := by
  unfold OSet.pop pyPop
  cases hn : normIdx s.items.length i with
  | none => exact .inl ⟨rfl, by cases s.items.isEmpty <;> exact ⟨_, rfl⟩⟩
  | some k =>
    have hlt := normIdx_lt hn
    have hk := List.getElem?_eq_getElem hlt
    simp only [isEmpty_eq_false_of_lt hlt, hk, Bool.false_eq_true, if_false]
    exact .inr ⟨_, _, rfl, rfl, fun h => h.eraseIdx hk _ fun _ _ => rfl⟩

theorem discard_spec (s : OSet α) (k : α) (h : s.MapOK) :
    (s.discard k).items = s.items.erase k ∧ (s.discard k).MapOK := by
  unfold OSet.discard
  cases hm : s.map k with
  | none =>
    have : k ∉ s.items := fun hk => by simpa [OSet.contains, hm] using h.mem_iff.2 hk
    exact ⟨(List.erase_of_not_mem this).symm, h⟩
  | some i =>
    have hg := (h.2 k i).1 hm
    -- `discard` shifts the positions `v ≥ i` where `pop` shifts `v > i`: the same away from `i`
    exact ⟨(erase_eq_eraseIdx_of_getElem? h.1 hg).symm, h.eraseIdx hg _ fun v hv =>
      ite_congr (propext ⟨fun hge => Nat.lt_of_le_of_ne hge hv.symm, Nat.le_of_lt⟩) (fun _ => rfl) fun _ => rfl⟩

end Py.OSet
