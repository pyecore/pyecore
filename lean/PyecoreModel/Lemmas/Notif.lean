import PyecoreModel.Model.Notif
import PyecoreModel.Lemmas.PyList
/-! One slot, one mutator: the notifications it emits replay to the new contents (C05).

For a many-valued slot `Same` is "same multiset, and duplicate-free if unique" (`same_iff`).  Every mutator is made of
two moves, an element leaves (`same_leave`) and an element comes in (`same_enter`), or of their batch forms
(`same_leave_many`, `same_extend`).  Last, slices and extended slices: what leaves and what comes in make up the list
(`pickAt_perm`, `replaceAt_perm`), reported as one batch each (`same_replace`). -/
namespace Py
variable {α : Type} [DecidableEq α]

/-- contents vs observer's mirror: equal (single-valued), same multiset (list-like), same set (set-like) -/
def Same (k : SlotKind) (c m : List α) : Prop :=
  match k with
  | .single => c = m
  | .list => c.Perm m
  | .set => c.Nodup ∧ m.Nodup ∧ ∀ x, x ∈ c ↔ x ∈ m

omit [DecidableEq α] in
theorem same_iff {k : SlotKind} (hk : k ≠ .single) {l m : List α} :
    Same k l m ↔ l.Perm m ∧ (k.unique = true → l.Nodup) := by
  cases k with
  | single => exact absurd rfl hk
  | list => simp [Same, SlotKind.unique]
  | set =>
    simp only [Same, SlotKind.unique, true_implies]
    constructor
    · rintro ⟨hl, hm, h⟩; exact ⟨(List.perm_ext_iff_of_nodup hl hm).2 h, hl⟩
    · rintro ⟨hp, hl⟩; exact ⟨hl, hp.nodup_iff.1 hl, fun _ => hp.mem_iff⟩

/-- an element leaves the slot (REMOVE): the observer erases it -/
theorem same_leave {k : SlotKind} {l m l' : List α} {y : α} (h : Same k l m) (hk : k ≠ .single)
    (hl : (y :: l').Perm l) : Same k l' (m.erase y) := by
  rw [same_iff hk] at h ⊢
  exact ⟨(List.cons_perm_iff_perm_erase.1 (hl.trans h.1)).2,
    fun hu => (List.nodup_cons.1 (hl.nodup_iff.2 (h.2 hu))).2⟩

/-- several leave (REMOVE_MANY, or a REMOVE each) -/
theorem same_leave_many {k : SlotKind} {l m l' : List α} (h : Same k l m) (hk : k ≠ .single) (r : List α)
    (hl : (r ++ l').Perm l) : Same k l' (r.foldl (fun c x => c.erase x) m) := by
  induction r generalizing l m with
  | nil =>
    rw [same_iff hk] at h ⊢
    exact ⟨hl.trans h.1, fun hu => hl.nodup_iff.2 (h.2 hu)⟩
  | cons y r ih => exact ih (same_leave h hk hl) (.refl _)

/-- an element comes in at some position (ADD), unless the slot is unique and holds it: the observer does `obsAdd` -/
theorem same_enter {k : SlotKind} {l m l' : List α} {x : α} (h : Same k l m) (hk : k ≠ .single)
    (hl : l'.Perm (x :: l)) :
    Same k (if k.unique && l.contains x then l else l') (obsAdd k.unique m x) := by
  have hp := ((same_iff hk).1 h).1
  rw [obsAdd, ← hp.contains_eq]
  split
  · exact h
  · next hc =>
    rw [same_iff hk] at h ⊢
    refine ⟨hl.trans ((hp.cons x).trans (List.perm_append_singleton x m).symm), fun hu => ?_⟩
    rw [hl.nodup_iff, List.nodup_cons]
    exact ⟨by simpa [hu] using hc, h.2 hu⟩

/-- several come in (ADD_MANY) -/
theorem same_extend {k : SlotKind} {l m : List α} (h : Same k l m) (hk : k ≠ .single) (xs : List α) :
    Same k (xs.foldl (obsAdd k.unique) l) (xs.foldl (obsAdd k.unique) m) :=
  List.foldl_rel h fun x _ _ _ hc => same_enter hc hk (List.perm_append_singleton x _)

theorem foldl_obsAdd_false (m xs : List α) : xs.foldl (obsAdd false) m = m ++ xs := by
  induction xs generalizing m with
  | nil => simp
  | cons a t ih => simp [obsAdd, ih]

/-- One call, both ways out: it raises, silently and without touching the slot, or it returns and what it reported
replays on any mirror that agreed with the slot.  The case analysis of `slotStep` is made here, once. -/
theorem slotStep_spec (k : SlotKind) (l : List α) (op : SOp α) :
    slotStep k l op = SOut.err l ∨ (slotStep k l op).raised = false ∧
      ∀ m, Same k l m → Same k (slotStep k l op).items (replay k.unique m (slotStep k l op).notifs) := by
  cases op with
  | assign v => cases k with
    | single => exact .inr ⟨rfl, fun m _ => by cases v <;> rfl⟩
    | list | set => exact .inl rfl
  | append x => cases k with
    | single => exact .inl rfl
    | list | set => exact .inr ⟨rfl, fun m h => same_enter h nofun (List.perm_append_singleton x l)⟩
  | insert i x => cases k with
    | single => exact .inl rfl
    | list | set => exact .inr ⟨rfl, fun m h => same_enter h nofun (insertAt_perm l _ x)⟩
  | remove x =>
    simp only [slotStep]; split
    · exact .inl rfl
    · next hk =>
      split
      · next hx => exact .inr ⟨rfl, fun m h => same_leave h hk (List.perm_cons_erase hx).symm⟩
      · exact .inl rfl
  | pop i | delItem i =>
    simp only [slotStep]; split
    · exact .inl rfl
    · next hk =>
      split
      · exact .inl rfl
      · next l' y hq =>
        obtain ⟨j, _, hg, rfl⟩ := pyPop_spec hq
        exact .inr ⟨rfl, fun m h => same_leave h hk (eraseIdx_perm hg)⟩
  | clear =>
    simp only [slotStep]; split
    · exact .inl rfl
    · next hk =>
      split
      · exact .inr ⟨rfl, fun m h => h⟩
      · exact .inr ⟨rfl, fun m h => same_leave_many h hk l (by simp)⟩
  | extend xs => cases k with
    | single => exact .inl rfl
    | list =>
      refine .inr ⟨rfl, fun m h => ?_⟩
      show (l ++ xs).Perm (xs.foldl (obsAdd false) m)
      rw [foldl_obsAdd_false]; exact List.Perm.append_right xs h
    | set => exact .inr ⟨rfl, fun m h => same_extend h nofun xs⟩
  | setItem i x => cases k with
    | single => exact .inl rfl
    | list =>
      simp only [slotStep]; split
      · next l' y l'' hq hs =>
        obtain ⟨j, hn, hg, rfl⟩ := pyPop_spec hq
        simp only [pySet, hn, Option.map_some, Option.some.injEq] at hs; subst hs
        exact .inr ⟨rfl, fun m h => same_enter (same_leave h nofun (eraseIdx_perm hg)) nofun (set_perm x (normIdx_lt hn))⟩
      · exact .inl rfl
    | set =>
      simp only [slotStep]; split
      · exact .inl rfl
      · next l' y hq =>
        obtain ⟨j, _, hg, rfl⟩ := pyPop_spec hq
        exact .inr ⟨rfl, fun m h => same_enter (same_leave h nofun (eraseIdx_perm hg)) nofun (insertAt_perm _ _ x)⟩

/-! ### an extended slice: the picked elements and the rest make up the list; after an assignment the new ones and the rest do -/

omit [DecidableEq α] in
theorem pickAt_perm {p : Nat → Bool} (i : Nat) (l : List α) : ((pickAt p i l).1 ++ (pickAt p i l).2).Perm l := by
  induction l generalizing i with
  | nil => exact .refl _
  | cons x xs ih =>
    rw [pickAt]; split
    · exact (ih _).cons x
    · exact List.perm_middle.trans ((ih _).cons x)

omit [DecidableEq α] in
theorem replaceAt_perm {p : Nat → Bool} (i : Nat) (l ys : List α) (h : ys.length = (pickAt p i l).1.length) :
    (replaceAt p i l ys).Perm ((pickAt p i l).2 ++ ys) := by
  induction l generalizing i ys with
  | nil => cases ys with
    | nil => exact .refl _
    | cons => cases h
  | cons x xs ih =>
    by_cases hp : p i = true
    · simp only [pickAt, replaceAt, hp, if_true] at h ⊢
      cases ys with
      | nil => cases h
      | cons y ys' => exact ((ih _ _ (Nat.succ.inj h)).cons y).trans List.perm_middle.symm
    · simp only [pickAt, replaceAt, hp] at h ⊢
      exact (ih _ _ h).cons x

theorem replay_append (u : Bool) (m : List α) (xs ys : List (Notif α)) :
    replay u m (xs ++ ys) = replay u (replay u m xs) ys :=
  List.foldl_append

theorem replay_removed (u : Bool) (m xs : List α) :
    replay u m (removedNotifs xs) = xs.foldl (fun c x => c.erase x) m := by
  unfold removedNotifs
  split <;> rfl

theorem replay_removes (u : Bool) (m xs : List α) :
    replay u m (xs.map (fun x => (⟨.remove, [x], []⟩ : Notif α))) = xs.foldl (fun c x => c.erase x) m :=
  List.foldl_map

theorem replay_added (m xs : List α) : replay false m (addedNotifs xs) = m ++ xs := by
  unfold addedNotifs
  split
  · simp [replay]
  · rfl
  · exact foldl_obsAdd_false m xs

/-- `r` leaves a list-like slot and `ys` comes in, reported as one batch each -/
theorem same_replace {l m l' rest r ys : List α} (h : Same .list l m) (hl : (r ++ rest).Perm l)
    (hl' : l'.Perm (rest ++ ys)) : Same .list l' (replay false m (removedNotifs r ++ addedNotifs ys)) := by
  rw [replay_append, replay_removed, replay_added]
  exact hl'.trans (List.Perm.append_right ys (same_leave_many h nofun r hl))

end Py
