import PyecoreModel.Model.PyList
/-! Facts about the Python-list specification `Model/PyList.lean` (index normalisation, `insertAt`, `pyPop`), and, in the
last section, the few facts about `List` itself that the development needs and core does not have. -/
namespace Py
variable {α : Type}

theorem clampIns_le {n : Nat} {i : Int} : clampIns n i ≤ n := by
  unfold clampIns; split <;> split <;> omega

theorem clampIns_self {n k : Nat} (h : k ≤ n) : clampIns n (k : Int) = k := by
  unfold clampIns; split <;> split <;> omega

theorem pyInsert_nat {l : List α} {k : Nat} {x : α} (h : k ≤ l.length) : pyInsert l (k : Int) x = insertAt l k x := by
  rw [pyInsert, clampIns_self h]

theorem normIdx_eq_some {n : Nat} {i : Int} {k : Nat} :
    normIdx n i = some k ↔ (k : Int) = (if i < 0 then n + i else i) ∧ k < n := by
  unfold normIdx; split <;> split <;> simp only [Option.some.injEq, reduceCtorEq, false_iff] <;> omega

/-- with the sum in the order in which `Snap.fix` (`Model/Compound.lean`) writes it -/
theorem normIdx_some {n : Nat} {i : Int} {k : Nat} (h : normIdx n i = some k) :
    (if i < 0 then i + (n : Int) else i) = (k : Int) ∧ k < n := by
  obtain ⟨hk, hlt⟩ := normIdx_eq_some.1 h
  exact ⟨by rw [hk, Int.add_comm], hlt⟩

theorem normIdx_lt {n : Nat} {i : Int} {k : Nat} (h : normIdx n i = some k) : k < n :=
  (normIdx_eq_some.1 h).2

theorem normIdx_ofNat {n k : Nat} (h : k < n) : normIdx n (k : Int) = some k :=
  normIdx_eq_some.2 ⟨(if_neg (Int.not_lt.2 (Int.natCast_nonneg k))).symm, h⟩

/-- `OSet.setItem` counts a negative index from the front itself before it hands it to `pop`, which normalises again. -/
theorem normIdx_pre {n : Nat} {i : Int} (h : 0 ≤ (if i < 0 then n + i else i)) :
    normIdx n (if i < 0 then n + i else i) = normIdx n i :=
  Option.ext fun k => by rw [normIdx_eq_some, normIdx_eq_some, if_neg (Int.not_lt.2 h)]

theorem normIdx_of_neg {n : Nat} {i : Int} (h : (if i < 0 then n + i else i) < 0) : normIdx n i = none :=
  Option.eq_none_iff_forall_ne_some.2 fun k hk => by rw [← (normIdx_eq_some.1 hk).1] at h; omega

theorem insertAt_eq_insertIdx {l : List α} {i : Nat} (h : i ≤ l.length) (x : α) :
    insertAt l i x = l.insertIdx i x := by
  induction l generalizing i with
  | nil => simp [insertAt, Nat.le_zero.1 h]
  | cons a t ih =>
    cases i with
    | zero => simp [insertAt]
    | succ j => simpa [insertAt] using ih (Nat.le_of_succ_le_succ h)

theorem eraseIdx_insertAt {l : List α} {k : Nat} {x : α} (h : k ≤ l.length) : (insertAt l k x).eraseIdx k = l := by
  rw [insertAt_eq_insertIdx h, List.eraseIdx_insertIdx_self]

theorem getElem?_insertAt (l : List α) (idx : Nat) (x : α) (h : idx ≤ l.length) (i : Nat) :
    (insertAt l idx x)[i]? = if i < idx then l[i]? else if i = idx then some x else l[i-1]? := by
  rw [insertAt_eq_insertIdx h, List.getElem?_insertIdx]
  by_cases hi : i = idx <;> simp [hi, h]

theorem getElem?_insertAt_self {l : List α} {k : Nat} (h : k ≤ l.length) (x : α) : (insertAt l k x)[k]? = some x := by
  rw [getElem?_insertAt l k x h, if_neg (Nat.lt_irrefl k), if_pos rfl]

theorem getElem?_insertAt_eq_some {l : List α} {idx : Nat} (h : idx ≤ l.length) {x k : α} {i : Nat} :
    (insertAt l idx x)[i]? = some k ↔
      (i = idx ∧ k = x) ∨ ∃ j, l[j]? = some k ∧ i = if j ≥ idx then j + 1 else j := by
  rw [insertAt_eq_insertIdx h]
  constructor
  · intro hg
    rcases Nat.lt_trichotomy i idx with hi | rfl | hi
    · rw [List.getElem?_insertIdx_of_lt hi] at hg
      exact .inr ⟨i, hg, (if_neg (Nat.not_le.2 hi)).symm⟩
    · rw [List.getElem?_insertIdx_self, if_pos h] at hg
      exact .inl ⟨rfl, (Option.some.inj hg).symm⟩
    · rw [List.getElem?_insertIdx_of_gt hi] at hg
      exact .inr ⟨i - 1, hg, by rw [if_pos (Nat.le_sub_one_of_lt hi), Nat.sub_add_cancel (Nat.zero_lt_of_lt hi)]⟩
  · rintro (⟨rfl, rfl⟩ | ⟨j, hj, rfl⟩)
    · rw [List.getElem?_insertIdx_self, if_pos h]
    · by_cases hji : j ≥ idx
      · rw [if_pos hji, List.getElem?_insertIdx_of_gt (Nat.lt_succ_of_le hji)]; exact hj
      · rw [if_neg hji, List.getElem?_insertIdx_of_lt (Nat.not_le.1 hji)]; exact hj

theorem insertAt_perm (l : List α) (k : Nat) (x : α) : (insertAt l k x).Perm (x :: l) := by
  unfold insertAt
  have := @List.perm_middle α x (l.take k) (l.drop k)
  rwa [List.take_append_drop] at this

theorem length_insertAt (l : List α) (k : Nat) (x : α) : (insertAt l k x).length = l.length + 1 :=
  (insertAt_perm l k x).length_eq

theorem mem_insertAt (l : List α) (i : Nat) (x b : α) : b ∈ insertAt l i x ↔ b = x ∨ b ∈ l := by
  rw [(insertAt_perm l i x).mem_iff]; simp

theorem nodup_insertAt {l : List α} {x : α} (hnd : l.Nodup) (hx : x ∉ l) (i : Nat) : (insertAt l i x).Nodup :=
  ((insertAt_perm l i x).nodup_iff).2 (List.nodup_cons.2 ⟨hx, hnd⟩)

theorem insertAt_eraseIdx {l : List α} {k : Nat} {x : α} (h : l[k]? = some x) : insertAt (l.eraseIdx k) k x = l := by
  obtain ⟨hk, rfl⟩ := List.getElem?_eq_some_iff.1 h
  have hlen := List.length_take_of_le (Nat.le_of_lt hk)
  rw [insertAt, List.eraseIdx_eq_take_drop_succ, List.take_left' hlen, List.drop_left' hlen,
    ← List.drop_eq_getElem_cons hk, List.take_append_drop]

theorem pyInsert_eraseIdx {l : List α} {k : Nat} {x : α} (h : l[k]? = some x) : pyInsert (l.eraseIdx k) (k : Int) x = l := by
  have hlt := (List.getElem?_eq_some_iff.1 h).1
  rw [pyInsert_nat (by rw [List.length_eraseIdx_of_lt hlt]; omega), insertAt_eraseIdx h]

theorem insertAt_map {β : Type} (g : α → β) (l : List α) (k : Nat) (a : α) :
    insertAt (l.map g) k (g a) = (insertAt l k a).map g := by
  simp [insertAt, List.map_take, List.map_drop]

theorem pyPop_spec {l l' : List α} {i : Int} {y : α} (h : pyPop l i = some (l', y)) :
    ∃ k, normIdx l.length i = some k ∧ l[k]? = some y ∧ l' = l.eraseIdx k := by
  unfold pyPop at h
  split at h
  · cases h
  · split at h
    · cases h
    · cases h; exact ⟨_, ‹_›, ‹_›, rfl⟩

theorem pyPop_sublist {l : List α} {i : Int} {lv : List α × α} (h : pyPop l i = some lv) : lv.1.Sublist l := by
  obtain ⟨k, _, _, hl⟩ := pyPop_spec (l' := lv.1) (y := lv.2) h
  exact hl ▸ List.eraseIdx_sublist l k

theorem pyPop_nat {l : List α} {k : Nat} {x : α} (h : l[k]? = some x) : pyPop l (k : Int) = some (l.eraseIdx k, x) := by
  rw [pyPop, normIdx_ofNat (List.getElem?_eq_some_iff.mp h).1]
  simp [h]

theorem pyPop_insertAt {l : List α} {t : Nat} (h : t ≤ l.length) (x : α) :
    pyPop (insertAt l t x) t = some (l, x) := by
  rw [pyPop_nat (getElem?_insertAt_self h x), eraseIdx_insertAt h]

/-! ### Facts about `List` that core lacks -/

theorem getElem?_eraseIdx_eq_some {l : List α} {p : Nat} {k : α} {j : Nat} :
    (l.eraseIdx p)[j]? = some k ↔ ∃ q, q ≠ p ∧ l[q]? = some k ∧ j = if q > p then q - 1 else q := by
  constructor
  · intro hg
    by_cases hj : j < p
    · rw [List.getElem?_eraseIdx_of_lt hj] at hg
      exact ⟨j, Nat.ne_of_lt hj, hg, (if_neg (Nat.lt_asymm hj)).symm⟩
    · rw [List.getElem?_eraseIdx_of_ge (Nat.not_lt.1 hj)] at hg
      exact ⟨j + 1, Nat.ne_of_gt (Nat.lt_succ_of_le (Nat.not_lt.1 hj)), hg, (if_pos (Nat.lt_succ_of_le (Nat.not_lt.1 hj))).symm⟩
  · rintro ⟨q, hq, hg, rfl⟩
    by_cases hqp : q > p
    · rw [if_pos hqp, List.getElem?_eraseIdx_of_ge (Nat.le_sub_one_of_lt hqp), Nat.sub_add_cancel (Nat.zero_lt_of_lt hqp)]; exact hg
    · rw [if_neg hqp, List.getElem?_eraseIdx_of_lt (Nat.lt_of_le_of_ne (Nat.not_lt.1 hqp) hq)]; exact hg

theorem eraseIdx_perm {l : List α} {k : Nat} {y : α} (h : l[k]? = some y) : (y :: l.eraseIdx k).Perm l := by
  have := (insertAt_perm (l.eraseIdx k) k y).symm
  rwa [insertAt_eraseIdx h] at this

theorem set_perm {l : List α} {j : Nat} (x : α) (h : j < l.length) : (l.set j x).Perm (x :: l.eraseIdx j) := by
  have := eraseIdx_perm (l := l.set j x) (k := j) (y := x) (by simp [h])
  rw [List.eraseIdx_set_eq] at this
  exact this.symm

theorem not_mem_eraseIdx_of_nodup {l : List α} {k : Nat} {x : α} (hnd : l.Nodup) (h : l[k]? = some x) :
    x ∉ l.eraseIdx k :=
  (List.nodup_cons.1 ((eraseIdx_perm h).nodup_iff.2 hnd)).1

theorem erase_eq_eraseIdx_of_getElem? [DecidableEq α] {l : List α} {k : α} {i : Nat}
    (hnd : l.Nodup) (hg : l[i]? = some k) : l.erase k = l.eraseIdx i := by
  obtain ⟨hi, rfl⟩ := List.getElem?_eq_some_iff.1 hg
  exact List.erase_eq_eraseIdx_of_idxOf (hnd.idxOf_getElem i hi)

theorem filter_ne_eq_erase [DecidableEq α] {l : List α} {y : α} (hnd : l.Nodup) : l.filter (· ≠ y) = l.erase y := by
  rw [hnd.erase_eq_filter]
  apply List.filter_congr
  intro b _
  by_cases h : b = y <;> simp [h]

theorem eraseIdx_map {β : Type} (g : α → β) (l : List α) (k : Nat) : (l.map g).eraseIdx k = (l.eraseIdx k).map g := by
  induction l generalizing k with
  | nil => rfl
  | cons a t ih => cases k <;> simp [ih]

theorem isEmpty_eq_false_of_lt {l : List α} {k : Nat} (h : k < l.length) : l.isEmpty = false :=
  List.isEmpty_eq_false_iff.2 (List.ne_nil_of_length_pos (Nat.zero_lt_of_lt h))

theorem eq_nil_or_singleton {l : List α} (h : l.length ≤ 1) : l = [] ∨ ∃ a, l = [a] := by
  match l, h with
  | [], _ => exact Or.inl rfl
  | [a], _ => exact Or.inr ⟨a, rfl⟩

theorem eq_singleton_of_mem {l : List α} {a : α} (h : l.length ≤ 1) (ha : a ∈ l) : l = [a] := by
  rcases eq_nil_or_singleton h with rfl | ⟨b, rfl⟩
  · cases ha
  · rw [List.mem_singleton.1 ha]

theorem idxOf?_getElem [DecidableEq α] {l : List α} {v : α} {k : Nat} (h : l.idxOf? v = some k) : l[k]? = some v := by
  obtain ⟨hlt, rfl, -⟩ := List.idxOf?_eq_some_iff.1 h
  exact List.getElem?_eq_getElem hlt

theorem set_same {l : List α} {i : Nat} {a : α} (h : l[i]? = some a) : l.set i a = l := by
  obtain ⟨hi, rfl⟩ := List.getElem?_eq_some_iff.1 h
  exact List.set_getElem_self hi

theorem take_append_getElem? {l : List α} {n : Nat} (x : α) (h : n ≤ l.length) :
    (l.take n ++ [x])[n]? = some x := by
  have := List.getElem?_concat_length (l := l.take n) (a := x)
  rwa [List.length_take_of_le h] at this

theorem mapM_some_of_forall {β : Type} (f : α → Option β) (g : α → β) (l : List α) (h : ∀ a ∈ l, f a = some (g a)) :
    l.mapM f = some (l.map g) := by
  induction l with
  | nil => rfl
  | cons a t ih =>
    simp [List.mapM_cons, h a (by simp), ih (fun x hx => h x (by simp [hx]))]

theorem filterMap_congr_mem {β : Type} (l : List α) (f g : α → Option β) (h : ∀ a ∈ l, f a = g a) :
    l.filterMap f = l.filterMap g := by
  induction l <;> simp_all [List.filterMap_cons]

theorem flatMap_congr_mem {β : Type} {l : List α} {f g : α → List β} (h : ∀ a ∈ l, f a = g a) :
    l.flatMap f = l.flatMap g := by
  rw [List.flatMap_def, List.flatMap_def, List.map_congr_left h]

theorem filterMap_map_eq_self {β : Type} {l : List α} {g : α → β} {f : β → Option α} (h : ∀ a ∈ l, f (g a) = some a) :
    (l.map g).filterMap f = l := by
  rw [List.filterMap_map, filterMap_congr_mem l (f ∘ g) some h, List.filterMap_some]

end Py
