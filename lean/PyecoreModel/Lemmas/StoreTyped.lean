import PyecoreModel.Lemmas.StoreStep
/-! C03: stored values always conform.  `MM.WFT`, the typing part of well-formedness; what the type check grants
(`conforms_obj`, `conforms_attr`, `conforms_ref`); `typed_step`, `typed_run`. -/
namespace Store
variable (mm : MM)

/-- typing part of well-formedness: an object that has `f` conforms to the type of `f`'s opposite, which is a declared
feature; declared defaults conform. -/
structure MM.WFT (mm : MM) : Prop where
  opp_type : ∀ f g c, (mm.feat f).opp = some g → mm.sub c (mm.feat f).owner = true → mm.sub c (mm.feat g).tcls = true
  opp_range : ∀ f g, (mm.feat f).opp = some g → g < mm.nFeat
  dflt_ok  : ∀ f d, (mm.feat f).dflt = some d → conformsDt (mm.feat f).tdt d = true

theorem conforms_obj {s : St} {f y} (h : conforms mm s f (.obj y) = true) :
    y < s.nObj ∧ mm.sub (s.cls y) (mm.feat f).tcls = true := by
  simp only [conforms, Bool.and_eq_true, decide_eq_true_eq] at h
  exact ⟨h.1.2, h.2⟩

theorem conforms_attr {s : St} {f v} (hnr : (mm.feat f).isRef = false) (h : conforms mm s f v = true) :
    conformsDt (mm.feat f).tdt v = true ∨ v = .none := by
  cases v <;> simp_all [conforms]

variable {mm} in
theorem conforms_ref {s : St} {f : Fid} {v : PyVal} (hr : (mm.feat f).isRef = true)
    (hc : conforms mm s f v = true) : v = .none ∨ ∃ y, v = .obj y := by
  cases v with
  | none => exact .inl rfl
  | obj y => exact .inr ⟨y, rfl⟩
  | bool _ | int _ | str _ | other _ => simp [conforms, hr] at hc

theorem typed_conforms (s : St) (ht : Typed mm s) (x : Oid) (f : Fid) (hr : (mm.feat f).isRef = false) :
    ∀ p ∈ s.as x f, conforms mm s f p = true := by
  intro p hp
  rcases ht.2 x f p hp hr with h | h
  · cases p <;> simp_all [conforms, conformsDt]
  · subst h; rfl

theorem typed_conforms_ref (s : St) (ht : Typed mm s) (x : Oid) (f : Fid) (hr : (mm.feat f).isRef = true) :
    ∀ y ∈ s.rs x f, conforms mm s f (.obj y) = true := by
  intro y hy
  have := ht.1 x f y hy
  simp [conforms, hr, this.2.1, this.2.2]

theorem Typed.of_shrinks {s s' : St} (ht : Typed mm s) (hs : ∀ a f b, b ∈ s'.rs a f → b ∈ s.rs a f) (hf : Frame s s') :
    Typed mm s' := by
  refine ⟨?_, ?_⟩
  · intro a f b hb; rw [hf.1, hf.2.1]; exact ht.1 a f b (hs a f b hb)
  · intro a f v hv; rw [hf.as] at hv; exact ht.2 a f v hv

variable {mm} in
theorem Drops.typed {s s' : St} (h : Drops mm s s') (ht : Typed mm s) : Typed mm s' :=
  ht.of_shrinks mm h.shrinks.1 h.frame

set_option linter.unusedVariables false in
theorem typed_step (hwf : mm.WF) (hwft : mm.WFT) (s : St) (ht : Typed mm s) (op : Op) :
    Typed mm (step mm s op).1 := by
  refine step_cases mm (fun r => Typed mm r.1) s op
    (herr := fun _ => ht) (hnew := ?new) (hres := ht)
    (hdelete := fun x r => (delete_drops mm s x r).typed ht)
    (hrappend := fun r o => ht.of_shrinks mm (rappend_shrinks_rs mm s r o) (rappend_frame mm s r o))
    (hrremove := fun _ _ _ => ht)
    (href := ?ref) (hattr := ?attr)
  case new =>
    intro c
    simp only [step]
    refine ⟨?_, ?_⟩
    · intro a f b hb
      have := ht.1 a f b hb
      refine ⟨⟨Nat.lt_succ_of_lt this.1.1, this.1.2⟩, Nat.lt_succ_of_lt this.2.1, ?_⟩
      have hne : b ≠ s.nObj := Nat.ne_of_lt this.2.1
      simp only [hne, if_false]; exact this.2.2
    · intro a f v hv hnr
      simp only at hv
      split at hv
      · split at hv
        · cases hv
        · split at hv
          · rename_i d hd; simp only [List.mem_singleton] at hv; subst hv; exact Or.inl (hwft.dflt_ok f v hd)
          · cases hv
      · exact ht.2 a f v hv hnr
  case ref =>
    intro x f _ hx hall hr
    have hm := stepRef_moves mm s x f op
    have hys := fun y hy => conforms_obj mm (hall (.obj y) (mem_allObjs.1 hy))
    simp only [hasFeat, Bool.and_eq_true, decide_eq_true_eq] at hx
    refine ⟨fun a f' b hb => ?_, fun a f' v hv => ?_⟩
    · -- what came in is an offered value in `x.f`, or `x` at the opposite end of one
      rw [hm.frame.1, hm.frame.2.1]
      rcases hm.adds a f' b hb with h | ⟨rfl, rfl, hb'⟩ | ⟨hopp, rfl, ha⟩
      · exact ht.1 a f' b h
      · exact ⟨⟨hx.1.1, hx.1.2⟩, hys b hb'⟩
      · exact ⟨⟨(hys a ha).1, hwft.opp_range f f' hopp⟩, hx.1.1, hwft.opp_type f f' _ hopp hx.2⟩
    · rw [hm.frame.as] at hv; exact ht.2 a f' v hv
  case attr =>
    intro x f _ hx hall hnr
    refine (stepAttr_spec mm s x f op).state ht ?_
    rintro _ ⟨l, rfl, hed⟩
    refine ⟨ht.1, ?_⟩
    intro a f' v hv hnr
    simp only [setAs_as] at hv
    split at hv
    · rename_i hc; obtain ⟨rfl, rfl⟩ := hc
      rcases hed.mem v hv with h | h
      · exact ht.2 a f' v h hnr
      · rcases List.mem_append.1 h with h | h
        · exact conforms_attr mm hnr (hall v h)
        · exact Or.inl (hwft.dflt_ok f' v (Option.mem_toList.1 h))
    · exact ht.2 a f' v hv hnr

theorem typed_init : Typed mm init := by
  refine ⟨?_, ?_⟩ <;> simp [init]

theorem typed_run (hwf : mm.WF) (hwft : mm.WFT) (ops : List Op) : Typed mm (run mm ops) :=
  List.foldlRecOn ops _ (typed_init mm) fun s hs op _ => typed_step mm hwf hwft s hs op

end Store
