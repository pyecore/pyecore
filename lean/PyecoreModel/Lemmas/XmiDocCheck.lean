import PyecoreModel.Lemmas.XmiDocIds
/-! `WFG` and `AllRefs` ask the same of every object of a forest, so they hold as soon as each member of `allNodes` passes
a test of its own (`allNodes_ind`).  With decidable token predicates that test evaluates (`Check`): this is how a concrete
forest is shown to meet the hypotheses of the document theorems (C08). -/
namespace XDoc

variable {ρ : Type} (mm : MMX)

/-- induction over the trees of a forest, where the premise at each object is known of every member of `allNodes` -/
theorem allNodes_ind {L M : SNode ρ → Prop} (roots : List (SNode ρ)) (h : ∀ x ∈ allNodes mm roots, L x.2)
    (step : ∀ {via cls uuid slots kids}, L (.mk via cls uuid slots kids) → (∀ k ∈ kids, M k) → M (.mk via cls uuid slots kids)) :
    ∀ r ∈ roots, M r := by
  have tree (n : SNode ρ) : ∀ p, (∀ x ∈ nodesFrom mm p n, L x.2) → M n := by
    induction n with
    | mk via cls uuid slots kids ih =>
      intro p hn
      refine step (hn (p, _) (mem_nodesFrom.2 (.inl rfl))) fun k hk => ?_
      have hv : k ∈ kidsVia (.mk via cls uuid slots kids) k.via := List.mem_filter.2 ⟨hk, beq_self_eq_true _⟩
      obtain ⟨i, hi⟩ := List.getElem?_of_mem hv
      exact ih k hk _ fun x hx => hn x (mem_nodesFrom.2 (.inr ⟨k.via, i, k, hi, hx⟩))
  intro r hr
  obtain ⟨i, hi⟩ := List.getElem?_of_mem hr
  exact tree r _ fun x hx => h x (mem_allNodes.2 ⟨i, r, hi, hx⟩)

/-- what `WFG` asks of one object, its children aside -/
def NodeOK (Q : ρ → Prop) (n : SNode ρ) : Prop :=
  n.cls < mm.nCls ∧ (n.slots.map (·.1)).Nodup ∧ (∀ e ∈ n.slots, SlotOKg mm Q n.cls e) ∧
  (∀ k ∈ n.kids, ∃ fi, mm.find n.cls k.via = some fi ∧ fi.kind = .cont ∧ (k.via, SlotV.kids) ∈ n.slots) ∧
  ∀ fi ∈ mm.feats n.cls, fi.kind = .cont → fi.many = false → (n.kids.filter fun k => k.via == fi.name).length ≤ 1

theorem wfg_of_nodes {Q : ρ → Prop} (roots : List (SNode ρ)) (h : ∀ x ∈ allNodes mm roots, NodeOK mm Q x.2) :
    ∀ r ∈ roots, WFG mm Q r :=
  allNodes_ind mm roots h fun ⟨hc, hnd, hs, hk2, h1⟩ ih => .mk _ _ _ _ _ hc hnd hs ih hk2 h1

theorem allRefs_of_nodes {Q : ρ → Prop} (roots : List (SNode ρ))
    (h : ∀ x ∈ allNodes mm roots, ∀ e ∈ x.2.slots, SlotRefs Q e.2) : ∀ r ∈ roots, AllRefs Q r :=
  allNodes_ind mm (L := fun n => ∀ e ∈ n.slots, SlotRefs Q e.2) roots h fun hs ih => .mk _ _ _ _ _ hs ih

/-! Decidability of the tests, for a decidable token predicate; scoped, so that it is there only where a forest is checked. -/
namespace Check
variable (Q : ρ → Prop) [DecidablePred Q]

scoped instance {α : Type} (o : Option α) (q : α → Prop) [DecidablePred q] : Decidable (∃ a, o = some a ∧ q a) :=
  decidable_of_iff (∃ a ∈ o, q a) Iff.rfl

scoped instance (cls : Nat) : (e : Str × SlotV ρ) → Decidable (SlotOKg mm Q cls e)
  | (_, s) => by unfold SlotOKg; cases s <;> exact inferInstance

scoped instance (s : SlotV ρ) : Decidable (SlotRefs Q s) := by
  cases s <;> unfold SlotRefs <;> exact inferInstance

scoped instance [DecidableEq ρ] (n : SNode ρ) : Decidable (NodeOK mm Q n) := by
  unfold NodeOK; exact inferInstance

scoped instance (n : Str) : Decidable (NameOK n) := inferInstanceAs (Decidable (_ ∧ _))

scoped instance (single : Bool) (roots : List (SNode Path)) (p : Path) : Decidable (Target mm single roots p) :=
  decidable_of_iff ((∃ x ∈ allNodes mm roots, x.1 = p) ∧ _)
    (and_congr_left' ⟨fun ⟨x, hx, h⟩ => ⟨x.2, h ▸ hx⟩, fun ⟨n, hn⟩ => ⟨(p, n), hn, rfl⟩⟩)

end Check
end XDoc
