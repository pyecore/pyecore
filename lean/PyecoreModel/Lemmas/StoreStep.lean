import PyecoreModel.Lemmas.StoreLink
/-! The shape every public operation shares (`step_cases`); what a call on a slot comes to (`Outcome`: it raises and leaves
the state as it was — C02, and C03 for `BadValueError` — or it answers); what a mutator of a reference slot is made of
(`Moves`) and what an attribute operation makes of its slot (`Edits`); `Resource.append` as `detach` then `St.addRoot`
(`rappend_eq`); and the backbone: every operation preserves `Inv`. -/
namespace Store
variable (mm : MM)

theorem step_target (s : St) (op : Op) (x f) (h : targetOf op = some (x, f)) :
    step mm s op =
      if !hasFeat mm s x f then (s, .error .attributeError) else
      if !(offered op).all (conforms mm s f) then (s, .error .badValue) else
      if (mm.feat f).isRef then stepRef mm s x f op else stepAttr mm s x f op := by
  cases op <;> cases h <;> rfl

theorem step_ok (s : St) (op : Op) (x f) (ht : targetOf op = some (x, f)) (r) (hex : (step mm s op).2 = .ok r) :
    hasFeat mm s x f = true ∧ (∀ v, v ∈ offered op → conforms mm s f v = true) ∧
      step mm s op = if (mm.feat f).isRef then stepRef mm s x f op else stepAttr mm s x f op := by
  rw [step_target mm s op x f ht] at hex ⊢
  split at hex
  · cases hex
  · rename_i hf
    split at hex
    · cases hex
    · rename_i hc
      rw [if_neg hf, if_neg hc]
      exact ⟨by simpa using hf, by simpa using hc, rfl⟩

/-- Case analysis on a public call, once for all facts about `step`: a call either raises and leaves the state alone,
or is one of `new`, `res`, `delete`, `Resource.append/remove`, or passed the feature and type checks and is a
reference-slot or an attribute-slot operation. -/
theorem step_cases (P : St × Res → Prop) (s : St) (op : Op)
    (herr : ∀ e, P (s, .error e))
    (hnew : ∀ c, P (step mm s (.new c)))
    (hres : P (step mm s .res))
    (hdelete : ∀ x r, P (delete mm s x r, .ok none))
    (hrappend : ∀ r o, P (rappend mm s r o, .ok none))
    (hrremove : ∀ r o, o ∈ s.rcont r → P ((s.setRcont r ((s.rcont r).erase o)).setEres o none, .ok none))
    (href : ∀ x f, targetOf op = some (x, f) → hasFeat mm s x f = true →
      (∀ v, v ∈ offered op → conforms mm s f v = true) → (mm.feat f).isRef = true → P (stepRef mm s x f op))
    (hattr : ∀ x f, targetOf op = some (x, f) → hasFeat mm s x f = true →
      (∀ v, v ∈ offered op → conforms mm s f v = true) → (mm.feat f).isRef = false → P (stepAttr mm s x f op)) :
    P (step mm s op) := by
  have tgt : ∀ x f, targetOf op = some (x, f) → P (step mm s op) := by
    intro x f h
    rw [step_target mm s op x f h]
    split
    · exact herr _
    · rename_i hx
      split
      · exact herr _
      · rename_i hall
        split
        · rename_i hr; exact href x f h (by simpa using hx) (by simpa using hall) hr
        · rename_i hr; exact hattr x f h (by simpa using hx) (by simpa using hall) (by simpa using hr)
  cases op with
  | new c => exact hnew c
  | res => exact hres
  | delete x r =>
    dsimp only [step]; split
    · exact hdelete x r
    · exact herr _
  | rappend r o =>
    dsimp only [step]; split
    · exact hrappend r o
    · exact herr _
  | rremove r o =>
    dsimp only [step]; split
    · rename_i hm; exact hrremove r o hm
    · exact herr _
  | set x f _ | del x f | add x f _ | insert x f _ _ | remove x f _ | pop x f _ | clear x f | setItem x f _ _
  | delItem x f _ | extend x f _ | assign x f _ => exact tgt x f rfl

/-- The call raises and leaves the state alone — the slot's own semantics raises `BadValueError` only to refuse a
single-valued assignment to a many-valued feature — or it answers, in a state of which `P` holds. -/
def Outcome (f : Fid) (op : Op) (s : St) (P : St → Prop) (r : St × Res) : Prop :=
  (∃ e, r = (s, .error e) ∧ (e = .badValue → (∃ x' f' v, op = .set x' f' v) ∧ (mm.feat f).many = true)) ∨
  ∃ v, r.2 = .ok v ∧ P r.1

variable {mm}

theorem Outcome.raise {f op s P} {e : Py.Err} (h : e ≠ .badValue) : Outcome mm f op s P (s, .error e) :=
  .inl ⟨e, rfl, fun h' => absurd h' h⟩

theorem Outcome.refuse {f s P x' f'} {v : PyVal} (hm : (mm.feat f).many = true) :
    Outcome mm f (.set x' f' v) s P (s, .error .badValue) :=
  .inl ⟨_, rfl, fun _ => ⟨⟨_, _, _, rfl⟩, hm⟩⟩

theorem Outcome.ok {f op s P} {s' : St} {v : Option PyVal} (h : P s') : Outcome mm f op s P (s', .ok v) :=
  .inr ⟨v, rfl, h⟩

theorem Outcome.state {f op s P} {r : St × Res} (h : Outcome mm f op s P r) {Q : St → Prop} (hs : Q s)
    (hP : ∀ s', P s' → Q s') : Q r.1 := by
  rcases h with ⟨e, rfl, _⟩ | ⟨v, _, h⟩
  · exact hs
  · exact hP _ h

theorem Outcome.raises {f op s P} {r : St × Res} (h : Outcome mm f op s P r) {e : Py.Err} (he : r.2 = .error e) :
    r.1 = s ∧ (e = .badValue → (∃ x' f' v, op = .set x' f' v) ∧ (mm.feat f).many = true) := by
  rcases h with ⟨e', rfl, h⟩ | ⟨v, hv, _⟩
  · cases he; exact ⟨rfl, h⟩
  · rw [hv] at he; cases he

variable (mm)

/-- overwriting a list-like slot: by well-formedness it has no opposite and is no containment, so `Sym` and `Own` do not
look at it, and `Card` asks nothing of it -/
theorem setRs_list_inv (hwf : mm.WF) (s : St) (h : Inv mm s) (x f l) (hl : (mm.feat f).isList = true) :
    Inv mm (s.setRs x f l) := by
  have hno : ∀ g, (mm.feat f).opp ≠ some g := fun g hg => by
    have := isList_false_of_opp mm hwf hg; rw [hl] at this; cases this
  have hnc : (mm.feat f).cont ≠ true := fun hc => by
    have := isList_false_of_cont mm hwf hc; rw [hl] at this; cases this
  refine ⟨?_, ?_, ?_, h.res⟩
  · intro f' g' hfg a' b'
    have n1 : f' ≠ f := by rintro rfl; exact hno g' hfg
    have n2 : g' ≠ f := by rintro rfl; exact hno f' (hwf.opp_mutual f' g' hfg).1
    simp only [setRs_rs, n1, n2, and_false, if_false]
    exact h.sym f' g' hfg a' b'
  · intro a' f'
    rw [setRs_rs]; split
    · rename_i hh; rw [hh.2]
      exact ⟨fun hm => by simp [Feature.isList, hm] at hl, fun h' => by rw [hl] at h'; cases h'⟩
    · exact h.card a' f'
  · intro o p f'
    rw [setRs_cont, setRs_rs]; split
    · rename_i hh; rw [hh.2]
      exact ⟨fun hc => absurd ((h.own o p f).1 hc).1 hnc, fun hc => absurd hc.1 hnc⟩
    · exact h.own o p f'

theorem setRs_frame (s : St) (x f l) : Frame s (s.setRs x f l) := ⟨rfl, rfl, rfl, rfl⟩

/-- `s'` has in its reference slots what `s` has, values among `ys` in `x.f`, and `x` at their opposite ends -/
def Adds (s s' : St) (x : Oid) (f : Fid) (ys : List Oid) : Prop :=
  ∀ a f' b, b ∈ s'.rs a f' →
    b ∈ s.rs a f' ∨ (a = x ∧ f' = f ∧ b ∈ ys) ∨ ((mm.feat f).opp = some f' ∧ b = x ∧ a ∈ ys)

/-- Releases of links and roots, `link`s of values among `ys` into `x.f`, and rewrites of a list-like `x.f` (which has no
opposite and is no containment) that bring in nothing but values among `ys`. -/
inductive Moves (x : Oid) (f : Fid) (ys : List Oid) : St → St → Prop
  | refl (s) : Moves x f ys s s
  | drops {s s' s''} : Moves x f ys s s' → Drops mm s' s'' → Moves x f ys s s''
  | link {s s'} (y pos) : y ∈ ys → Moves x f ys s s' → Moves x f ys s (link mm s' x f y pos)
  | setList {s s'} (l) : (mm.feat f).isList = true → (∀ b, b ∈ l → b ∈ s'.rs x f ∨ b ∈ ys) →
      Moves x f ys s s' → Moves x f ys s (s'.setRs x f l)

variable {mm}

theorem Drops.moves {s s' : St} {x f ys} (h : Drops mm s s') : Moves mm x f ys s s' := .drops (.refl s) h

theorem Moves.trans {x f ys} {s1 s2 s3 : St} (h12 : Moves mm x f ys s1 s2) (h23 : Moves mm x f ys s2 s3) :
    Moves mm x f ys s1 s3 := by
  induction h23 with
  | refl => exact h12
  | drops _ d ih => exact .drops ih d
  | link y pos hy _ ih => exact .link y pos hy ih
  | setList l hl hsub _ ih => exact .setList l hl hsub ih

theorem Moves.inv {x f ys} {s s' : St} (h : Moves mm x f ys s s') (hwf : mm.WF) (hs : Inv mm s) : Inv mm s' := by
  induction h with
  | refl => exact hs
  | drops _ d ih => exact d.inv hwf ih
  | link y pos _ _ ih => exact link_inv mm hwf _ ih x f y pos
  | setList l hl _ _ ih => exact setRs_list_inv mm hwf _ ih x f l hl

theorem Moves.frame {x f ys} {s s' : St} (h : Moves mm x f ys s s') : Frame s s' := by
  induction h with
  | refl => exact Frame.refl _
  | drops _ d ih => exact ih.trans d.frame
  | link y pos _ _ ih => exact ih.trans (link_frame mm _ x f y pos)
  | setList l _ _ _ ih => exact ih.trans (setRs_frame _ x f l)

theorem Moves.adds {x f ys} {s s' : St} (h : Moves mm x f ys s s') : Adds mm s s' x f ys := by
  induction h with
  | refl => exact fun _ _ _ hb => Or.inl hb
  | drops _ d ih => exact fun a f' b hb => ih a f' b (d.shrinks.1 a f' b hb)
  | link y pos hy _ ih =>
    intro a f' b hb
    rcases link_mem_sub mm _ x f y pos a f' b hb with h | ⟨rfl, rfl, rfl⟩ | ⟨hopp, rfl, rfl⟩
    · exact ih a f' b h
    · exact Or.inr (Or.inl ⟨rfl, rfl, hy⟩)
    · exact Or.inr (Or.inr ⟨hopp, rfl, hy⟩)
  | setList l _ hsub _ ih =>
    intro a f' b hb
    simp only [setRs_rs] at hb
    split at hb
    · rename_i hc; obtain ⟨rfl, rfl⟩ := hc
      rcases hsub b hb with h | h
      · exact ih _ _ b h
      · exact Or.inr (Or.inl ⟨rfl, rfl, h⟩)
    · exact ih a f' b hb

variable (mm)

theorem clearRef_drops (s : St) (x f) : Drops mm s (clearRef mm s x f) :=
  Drops.foldl (fun s y => .unlink x f y (.refl s)) _ s

theorem deleteOne_drops (s : St) (x) : Drops mm s (deleteOne mm s x) :=
  Drops.foldl (fun s _ => .unlink _ _ _ (.refl s)) _ s

theorem delete_drops (s : St) (x r) : Drops mm s (delete mm s x r) :=
  (Drops.foldl (fun s d => deleteOne_drops mm s d) _ s).trans (deleteOne_drops mm _ x)

theorem extendRef_moves {s : St} {x f ys} : Moves mm x f ys s (extendRef mm s x f ys) :=
  List.foldlRecOn ys _ (.refl s) fun _ h y hy => .link y _ hy h

theorem mem_allObjs {y : Oid} {vs : List PyVal} : y ∈ allObjs vs ↔ .obj y ∈ vs := by
  unfold allObjs; rw [List.mem_filterMap]
  constructor
  · rintro ⟨v, hv, hvo⟩; cases v <;> cases hvo; exact hv
  · exact fun h => ⟨_, h, rfl⟩

theorem objOf_mem_allObjs {v : PyVal} {y : Oid} {vs : List PyVal} (hv : v ∈ vs) (h : v = .obj y) : y ∈ allObjs vs :=
  mem_allObjs.2 (h ▸ hv)

/-- stated for any `x f`: `stepRef` takes the slot from its arguments and ignores the target inside `op` -/
theorem stepRef_spec (s : St) (x f op) :
    Outcome mm f op s (Moves mm x f (allObjs (offered op)) s) (stepRef mm s x f op) := by
  have eraseSub : ∀ k b, b ∈ (s.rs x f).eraseIdx k → b ∈ s.rs x f ∨ b ∈ allObjs (offered op) :=
    fun k b hb => Or.inl ((List.eraseIdx_sublist _ _).subset hb)
  have one : ∀ {y : Oid}, y ∈ allObjs [PyVal.obj y] := mem_allObjs.2 (List.mem_singleton.2 rfl)
  cases op with
  | set x' f' v =>
    dsimp only [stepRef]; split
    · rename_i hm; exact .refuse hm
    · split
      · exact .ok (.link _ _ one (.refl s))
      · exact .ok (unlinkHead_drops mm s x f).moves
  | del x' f' =>
    dsimp only [stepRef]; split
    · exact .ok (clearRef_drops mm s x f).moves
    · exact .ok (unlinkHead_drops mm s x f).moves
  | add x' f' v =>
    dsimp only [stepRef]; split
    · exact .ok (.link _ _ one (.refl s))
    · exact .raise nofun
  | insert x' f' i v =>
    dsimp only [stepRef]; split
    · exact .ok (.link _ _ one (.refl s))
    · exact .raise nofun
  | remove x' f' v =>
    dsimp only [stepRef]; split
    · split
      · exact .ok (Drops.unlink _ _ _ (.refl s)).moves
      · exact .raise (by split <;> nofun)
    · exact .raise (by split <;> nofun)
  | pop x' f' i =>
    dsimp only [stepRef]
    split
    · exact .raise (by split <;> nofun)
    · split
      · exact .raise nofun
      · split
        · exact .raise nofun
        · split
          · rename_i hl; exact .ok (.setList _ hl (eraseSub _) (.refl s))
          · exact .ok (Drops.unlink _ _ _ (.refl s)).moves
  | clear x' f' => exact .ok (clearRef_drops mm s x f).moves
  | setItem x' f' i v =>
    dsimp only [stepRef]
    split
    · rename_i y
      split
      · rename_i hl
        unfold Py.pySet
        cases hn : Py.normIdx (s.rs x f).length i with
        | none => exact .raise nofun
        | some k =>
          refine .ok (.setList _ hl (fun b hb => ?_) (.refl s))
          rcases List.mem_or_eq_of_mem_set hb with h | h
          · exact Or.inl h
          · subst h; exact Or.inr one
      · split
        · exact .raise (by split <;> nofun)
        · split
          · exact .raise nofun
          · split
            · exact .raise nofun
            · exact .ok (.link _ _ one (Drops.unlink _ _ _ (.refl s)).moves)
    · exact .raise nofun
  | delItem x' f' i =>
    dsimp only [stepRef]
    split
    · exact .raise nofun
    · split
      · exact .raise nofun
      · split
        · exact .raise nofun
        · split
          · rename_i hl; exact .ok (.setList _ hl (eraseSub _) (.refl s))
          · exact .ok (Drops.unlink _ _ _ (.refl s)).moves
  | extend x' f' vs => exact .ok (extendRef_moves mm)
  | assign x' f' vs => exact .ok ((clearRef_drops mm s x f).moves.trans (extendRef_moves mm))
  | new | res | delete | rappend | rremove => exact .raise nofun

theorem stepRef_moves (s : St) (x f op) : Moves mm x f (allObjs (offered op)) s (stepRef mm s x f op).1 :=
  (stepRef_spec mm s x f op).state (.refl s) (fun _ h => h)

theorem stepAttr_spec (s : St) (x f op) :
    Outcome mm f op s
      (fun s' => ∃ l, s' = s.setAs x f l ∧ Edits (mm.feat f).isList (offered op ++ (mm.feat f).dflt.toList) (s.as x f) l)
      (stepAttr mm s x f op) := by
  have off : ∀ v, v ∈ offered op → v ∈ offered op ++ (mm.feat f).dflt.toList := fun v h => List.mem_append_left _ h
  have one : ∀ {v : PyVal}, v ∈ [v] ++ (mm.feat f).dflt.toList := List.mem_append_left _ (List.mem_singleton.2 rfl)
  cases op with
  | set x' f' v =>
    dsimp only [stepAttr]; split
    · rename_i hm; exact .refuse hm
    · refine .ok ⟨_, rfl, ?_⟩
      split
      · exact .nil
      · exact .single one
  | del x' f' =>
    dsimp only [stepAttr]; split
    · exact .ok ⟨_, rfl, .nil⟩
    · refine .ok ⟨_, rfl, ?_⟩
      split
      · rename_i d hd; exact .single (by simp [hd])
      · exact .nil
  | add x' f' v =>
    refine .ok ⟨_, rfl, ?_⟩
    rw [appendVal_eq_addVal]; exact .add _ _ one (.refl _)
  | insert x' f' i v => exact .ok ⟨_, rfl, .add _ _ one (.refl _)⟩
  | remove x' f' v =>
    dsimp only [stepAttr]; split
    · exact .ok ⟨_, rfl, .sub (.refl _) rmVal_sublist⟩
    · exact .raise (by split <;> nofun)
  | pop x' f' i =>
    dsimp only [stepAttr]; split
    · exact .raise (by split <;> nofun)
    · cases hp : Py.pyPop (s.as x f) i with
      | none => exact .raise nofun
      | some lv => exact .ok ⟨_, rfl, .sub (.refl _) (Py.pyPop_sublist hp)⟩
  | clear x' f' => exact .ok ⟨_, rfl, .nil⟩
  | setItem x' f' i v =>
    dsimp only [stepAttr]; split
    · rename_i hl
      unfold Py.pySet
      cases hn : Py.normIdx (s.as x f).length i with
      | none => exact .raise nofun
      | some k =>
        refine .ok ⟨_, rfl, .setList _ hl (fun b hb => ?_) (.refl _)⟩
        rcases List.mem_or_eq_of_mem_set hb with h | h
        · exact Or.inl h
        · subst h; exact Or.inr one
    · rename_i hl
      split
      · exact .raise (by split <;> nofun)
      · cases hn : Py.normIdx (s.as x f).length i with
        | none => exact .raise nofun
        | some k =>
          refine .ok ⟨_, rfl, ?_⟩
          -- the collection is set-like here: `addVal false` is how it takes the value
          rw [show false = (mm.feat f).isList by simpa using hl]
          exact .add _ _ one (.sub (.refl _) (List.eraseIdx_sublist _ k))
  | delItem x' f' i =>
    dsimp only [stepAttr]; split
    · exact .raise nofun
    · cases hp : Py.pyPop (s.as x f) i with
      | none => exact .raise nofun
      | some lv => exact .ok ⟨_, rfl, .sub (.refl _) (Py.pyPop_sublist hp)⟩
  | extend x' f' vs => exact .ok ⟨_, rfl, .extend vs off (.refl _)⟩
  | assign x' f' vs => exact .ok ⟨_, rfl, .extend vs off .nil⟩
  | new | res | delete | rappend | rremove => exact .raise nofun

theorem step_error_unchanged (s : St) (op : Op) (e : Py.Err) :
    (step mm s op).2 = .error e → (step mm s op).1 = s :=
  step_cases mm (fun r => r.2 = .error e → r.1 = s) s op
    (herr := fun _ _ => rfl)
    (hnew := fun _ h => by cases h) (hres := fun h => by cases h) (hdelete := fun _ _ h => by cases h)
    (hrappend := fun _ _ h => by cases h) (hrremove := fun _ _ _ h => by cases h)
    (href := fun x f _ _ _ _ h => ((stepRef_spec mm s x f op).raises h).1)
    (hattr := fun x f _ _ _ _ h => ((stepAttr_spec mm s x f op).raises h).1)

theorem rremove_eq (s : St) (hr : ResOK s) (r o) (h : o ∈ s.rcont r) :
    (s.setRcont r ((s.rcont r).erase o)).setEres o none = unroot s o := by
  unfold unroot; rw [(hr.roots o r).2 h]

/-- `o` becomes the last root of `r` -/
def St.addRoot (s : St) (r : Rid) (o : Oid) : St := (s.setRcont r (s.rcont r ++ [o])).setEres o (some r)

@[simp] theorem addRoot_rs (s : St) (r o) : (s.addRoot r o).rs = s.rs := rfl
theorem addRoot_frame (s : St) (r o) : Frame s (s.addRoot r o) := ⟨rfl, rfl, rfl, rfl⟩

theorem dropEnd_addRoot (s : St) (r o x f y) :
    (s.addRoot r o).dropEnd mm x f y = (s.dropEnd mm x f y).addRoot r o := by
  unfold St.dropEnd St.putEnd; split <;> rfl

theorem unlinkRaw_addRoot (s : St) (r o x f y) :
    unlinkRaw mm (s.addRoot r o) x f y = (unlinkRaw mm s x f y).addRoot r o := by
  rw [unlinkRaw_eq, unlinkRaw_eq]
  simp only [addRoot_rs]
  by_cases h : y ∈ s.rs x f
  · simp only [h, if_true]
    cases (mm.feat f).opp <;> simp only [dropEnd_addRoot]
  · simp only [h, if_false]

theorem rappend_eq (s : St) (r o) :
    rappend mm s r o = if s.eres o = some r ∧ o ∈ s.rcont r then s else (detach mm s o).addRoot r o := by
  -- as written, `rappend` releases the containment link after the object has become a root
  have h : rappend mm s r o = if s.eres o = some r ∧ o ∈ s.rcont r then s else
      match (unroot s o).cont o with
      | some (p, pf) => unlinkRaw mm ((unroot s o).addRoot r o) p pf o
      | none => (unroot s o).addRoot r o := rfl
  rw [h, detach_eq]
  split
  · rfl
  · cases (unroot s o).cont o with
    | none => rfl
    | some pf => exact unlinkRaw_addRoot mm _ r o pf.1 pf.2 o

theorem addRoot_inv (s : St) (h : Inv mm s) (r o) (hfree : Free s o) : Inv mm (s.addRoot r o) := by
  have hres := h.res
  have hnot : ∀ r', o ∉ s.rcont r' := fun r' hm => by
    have := (hres.roots o r').2 hm; rw [hfree.2] at this; cases this
  refine h.of_links rfl rfl ⟨fun o' r' => ?_, fun r' => ?_, fun o' hne => ?_⟩
  · simp only [St.addRoot, setEres_eres, setEres_rcont, setRcont_eres, setRcont_rcont]
    by_cases ho : o' = o
    · subst ho
      by_cases hr : r' = r
      · simp [hr]
      · simp [hr, hnot r', Ne.symm hr]
    · rw [if_neg ho, hres.roots]
      split
      · rename_i hr; simp [hr, ho]
      · rfl
  · simp only [St.addRoot, setEres_rcont, setRcont_rcont]
    split
    · rename_i e; subst e
      refine List.nodup_append.2 ⟨hres.nodup r', by simp, ?_⟩
      intro a ha b hb e
      rw [List.mem_singleton.1 hb] at e; subst e; exact hnot r' ha
    · exact hres.nodup r'
  · simp only [St.addRoot, setEres_eres]
    split
    · rename_i e; subst e; exact absurd hfree.1 hne
    · exact hres.contained o' hne

theorem rappend_inv (hwf : mm.WF) (s : St) (h : Inv mm s) (r o) : Inv mm (rappend mm s r o) := by
  rw [rappend_eq]
  split
  · exact h
  · exact addRoot_inv mm _ ((detach_drops mm s o).inv hwf h) r o (detach_free mm s h o)

theorem rappend_shrinks_rs (s : St) (r o) : ∀ a f b, b ∈ (rappend mm s r o).rs a f → b ∈ s.rs a f := by
  rw [rappend_eq]; split
  · exact fun _ _ _ h => h
  · exact (detach_drops mm s o).shrinks.1

theorem rappend_frame (s : St) (r o) : Frame s (rappend mm s r o) := by
  rw [rappend_eq]; split
  · exact Frame.refl s
  · exact (detach_drops mm s o).frame.trans (addRoot_frame _ r o)

theorem setAs_inv (s : St) (h : Inv mm s) (x f l) : Inv mm (s.setAs x f l) := h.congr rfl rfl rfl rfl

theorem inv_init : Inv mm init := by
  refine ⟨?_, ?_, ?_, ?_, ?_, ?_⟩ <;> simp [init, Sym, Card, Own]

theorem inv_step (hwf : mm.WF) (s : St) (h : Inv mm s) (op : Op) : Inv mm (step mm s op).1 := by
  refine step_cases mm (fun r => Inv mm r.1) s op
    (herr := fun _ => h)
    (hnew := fun _ => h.congr rfl rfl rfl rfl) (hres := h.congr rfl rfl rfl rfl)
    (hdelete := fun x r => (delete_drops mm s x r).inv hwf h)
    (hrappend := rappend_inv mm hwf s h)
    (hrremove := fun r o hm => by rw [rremove_eq s h.res r o hm]; exact unroot_inv mm s h o)
    (href := fun x f _ _ _ _ => (stepRef_moves mm s x f op).inv hwf h)
    (hattr := fun x f _ _ _ _ => ?_)
  exact (stepAttr_spec mm s x f op).state h (fun _ ⟨l, hl, _⟩ => hl ▸ setAs_inv mm s h x f l)

theorem inv_run (hwf : mm.WF) (ops : List Op) : Inv mm (run mm ops) :=
  List.foldlRecOn ops _ (inv_init mm) fun s hs op _ => inv_step mm hwf s hs op

end Store
