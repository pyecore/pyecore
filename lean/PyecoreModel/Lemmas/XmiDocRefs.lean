import PyecoreModel.Lemmas.XmiDoc
import PyecoreModel.Lemmas.FragmentText
/-! References in documents (C08, C09): the token map `mapT` and what it commutes with; the document round trip for an
abstract tree codec (`doc_roundtrip_codec`); navigation in the loaded forest; fragment addressing: the text of a path
that `nodeAt` follows resolves, in the loaded forest, to that path. -/

namespace XDoc
open Xmi

/-! ### the token map: a tree with every reference `t` replaced by `g t` -/

def mapSlotT {ρ σ : Type} (g : ρ → σ) : SlotV ρ → SlotV σ
  | .none => .none
  | .attr1 v => .attr1 v
  | .attrN vs => .attrN vs
  | .ref1 t => .ref1 (g t)
  | .refN ts => .refN (ts.map g)
  | .kids => .kids

mutual
def mapT {ρ σ : Type} (g : ρ → σ) : SNode ρ → SNode σ
  | .mk via cls uuid slots kids => .mk via cls uuid (slots.map fun e => (e.1, mapSlotT g e.2)) (mapTL g kids)
def mapTL {ρ σ : Type} (g : ρ → σ) : List (SNode ρ) → List (SNode σ)
  | [] => []
  | k :: t => mapT g k :: mapTL g t
end

theorem mapTL_eq_map {ρ σ : Type} (g : ρ → σ) (l : List (SNode ρ)) : mapTL g l = l.map (mapT g) := by
  induction l with
  | nil => simp [mapTL]
  | cons k t ih => simp only [mapTL, List.map_cons, ih]

@[simp] theorem mapT_via {ρ σ : Type} (g : ρ → σ) (n : SNode ρ) : (mapT g n).via = n.via := by
  cases n; simp [mapT, SNode.via]

@[simp] theorem mapT_cls {ρ σ : Type} (g : ρ → σ) (n : SNode ρ) : (mapT g n).cls = n.cls := by
  cases n; simp [mapT, SNode.cls]

@[simp] theorem mapT_uuid {ρ σ : Type} (g : ρ → σ) (n : SNode ρ) : (mapT g n).uuid = n.uuid := by
  cases n; simp [mapT, SNode.uuid]

@[simp] theorem mapT_slots {ρ σ : Type} (g : ρ → σ) (n : SNode ρ) :
    (mapT g n).slots = n.slots.map fun e => (e.1, mapSlotT g e.2) := by
  cases n; simp [mapT, SNode.slots]

theorem mapSlotT_id {ρ : Type} (s : SlotV ρ) : mapSlotT id s = s := by
  cases s <;> simp [mapSlotT]

theorem mapT_id {ρ : Type} (n : SNode ρ) : mapT id n = n := by
  induction n with
  | mk via cls uuid slots kids ih =>
    rw [mapT, mapTL_eq_map, (List.map_congr_left ih).trans (List.map_id kids)]
    simp [mapSlotT_id]

theorem mapSlotT_comp {ρ σ τ : Type} (g : ρ → σ) (h : σ → τ) (s : SlotV ρ) :
    mapSlotT h (mapSlotT g s) = mapSlotT (h ∘ g) s := by
  cases s <;> simp [mapSlotT]

theorem mapT_comp {ρ σ τ : Type} (g : ρ → σ) (h : σ → τ) (n : SNode ρ) : mapT h (mapT g n) = mapT (h ∘ g) n := by
  induction n with
  | mk via cls uuid slots kids ih =>
    simp only [mapT, mapTL_eq_map, List.map_map]
    congr 1
    · exact List.map_congr_left fun e _ => by simp [mapSlotT_comp]
    · exact List.map_congr_left ih

/-! ### `mapRefs f` reads what `mapT g` wrote -/

theorem mapRefsL_eq_mapM {ρ σ : Type} (f : ρ → Option σ) (l : List (SNode ρ)) : mapRefsL f l = l.mapM (mapRefs f) := by
  induction l with
  | nil => rfl
  | cons k t ih => rw [mapRefsL, ih, List.mapM_cons]; cases mapRefs f k <;> cases t.mapM (mapRefs f) <;> rfl

inductive AllRefs {ρ : Type} (P : ρ → Prop) : SNode ρ → Prop
  | mk (via : Str) (cls : Nat) (uuid : Str) (slots : List (Str × SlotV ρ)) (kids : List (SNode ρ))
      (hs : ∀ e ∈ slots, SlotRefs P e.2) (hk : ∀ k ∈ kids, AllRefs P k) : AllRefs P (.mk via cls uuid slots kids)

theorem SlotRefs_mapT {ρ σ : Type} (P : ρ → Prop) (Q : σ → Prop) (g : ρ → σ) (hPQ : ∀ r, P r → Q (g r)) (s : SlotV ρ)
    (h : SlotRefs P s) : SlotRefs Q (mapSlotT g s) := by
  cases s with
  | ref1 t => exact hPQ t h
  | refN ts => exact List.forall_mem_map.mpr fun t ht => hPQ t (h t ht)
  | _ => trivial

theorem AllRefs_mono {ρ : Type} (P Q : ρ → Prop) (hPQ : ∀ r, P r → Q r) (n : SNode ρ) (h : AllRefs P n) : AllRefs Q n := by
  induction h with
  | mk via cls uuid slots kids hs _ ih =>
    exact .mk _ _ _ _ _ (fun e he => by simpa only [mapSlotT_id] using SlotRefs_mapT P Q id hPQ e.2 (hs e he)) ih

theorem AllRefsL_mono {ρ : Type} (P Q : ρ → Prop) (hPQ : ∀ r, P r → Q r) :
    (l : List (SNode ρ)) → (∀ k ∈ l, AllRefs P k) → ∀ k ∈ l, AllRefs Q k :=
  fun _ h k hk => AllRefs_mono P Q hPQ k (h k hk)

theorem mapSlot_mapT {ρ σ τ : Type} (f : σ → Option τ) (g : ρ → σ) (h : ρ → τ) (s : SlotV ρ)
    (hr : SlotRefs (fun r => f (g r) = some (h r)) s) : mapSlot f (mapSlotT g s) = some (mapSlotT h s) := by
  cases s with
  | ref1 t => simp only [mapSlotT, mapSlot]; rw [hr]; rfl
  | refN ts => simp only [mapSlotT, mapSlot, List.mapM_map, Py.mapM_some_of_forall (f ∘ g) h ts hr, Option.map_some]
  | _ => rfl

theorem mapSlots_mapT {ρ σ τ : Type} (f : σ → Option τ) (g : ρ → σ) (h : ρ → τ) (l : List (Str × SlotV ρ))
    (hr : ∀ e ∈ l, SlotRefs (fun r => f (g r) = some (h r)) e.2) :
    mapSlots f (l.map fun e => (e.1, mapSlotT g e.2)) = some (l.map fun e => (e.1, mapSlotT h e.2)) := by
  induction l with
  | nil => rfl
  | cons e t ih =>
    simp only [List.map_cons, mapSlots, mapSlot_mapT f g h e.2 (hr e (by simp)), ih fun x hx => hr x (by simp [hx])]

/-- the one fact about `mapRefs`: where references were written by `g` and the reader `f` takes what `g` wrote for a
    reference of the tree to its image under `h`, reading gives the tree mapped by `h` -/
theorem mapRefs_mapT {ρ σ τ : Type} (f : σ → Option τ) (g : ρ → σ) (h : ρ → τ) (n : SNode ρ)
    (hr : AllRefs (fun r => f (g r) = some (h r)) n) : mapRefs f (mapT g n) = some (mapT h n) := by
  induction hr with
  | mk via cls uuid slots kids hs _ ih =>
    simp only [mapT, mapTL_eq_map, mapRefs, mapRefsL_eq_mapM, mapSlots_mapT f g h slots hs, List.mapM_map,
      Py.mapM_some_of_forall (mapRefs f ∘ mapT g) _ kids ih]

theorem AllRefs.of_forall {ρ : Type} {P : ρ → Prop} (hP : ∀ r, P r) (n : SNode ρ) : AllRefs P n := by
  induction n with
  | mk via cls uuid slots kids ih =>
    exact .mk _ _ _ _ _ (fun e _ => by cases e.2 <;> simp [SlotRefs, hP]) ih

theorem mapRefs_total {ρ σ : Type} (g : ρ → σ) : (n : SNode ρ) → mapRefs (fun r => some (g r)) n = some (mapT g n) :=
  fun n => by simpa only [mapT_id] using mapRefs_mapT (fun r => some (g r)) id g n (.of_forall (fun _ => rfl) n)

theorem mapRefs_back {ρ σ : Type} (f : σ → Option ρ) (g : ρ → σ) :
    (n : SNode ρ) → AllRefs (fun r => f (g r) = some r) n → mapRefs f (mapT g n) = some n :=
  fun n h => by simpa only [mapT_id] using mapRefs_mapT f g id n h

/-! ### the token map commutes with the normal form and keeps a tree well-formed -/

theorem lookup_map_slots {ρ σ : Type} (g : ρ → σ) (l : List (Str × SlotV ρ)) (f : Str) :
    (l.map fun e => (e.1, mapSlotT g e.2)).lookup f = (l.lookup f).map (mapSlotT g) := by
  induction l with
  | nil => rfl
  | cons e t ih =>
    obtain ⟨k, s⟩ := e
    simp only [List.map_cons, List.lookup_cons]
    cases (f == k) <;> simp [ih]

theorem mapSlotT_unset {ρ σ : Type} (g : ρ → σ) (fi : FInfo) : mapSlotT g (unsetSlot fi : SlotV ρ) = unsetSlot fi := by
  unfold unsetSlot
  split
  · split
    · rfl
    · split <;> rfl
  · split <;> rfl

theorem normSlot_mapT {ρ σ : Type} (g : ρ → σ) (sd : Bool) (fi : FInfo) (s : SlotV ρ) :
    normSlot sd fi (mapSlotT g s) = mapSlotT g (normSlot sd fi s) := by
  cases s with
  | attr1 v => simp only [mapSlotT, normSlot]; split <;> rfl
  | _ => rfl

theorem effSlot_mapT {ρ σ : Type} (g : ρ → σ) (sd : Bool) (fi : FInfo) (slots : List (Str × SlotV ρ)) :
    effSlot sd fi (slots.map fun e => (e.1, mapSlotT g e.2)) = (effSlot sd fi slots).map fun e => (e.1, mapSlotT g e.2) := by
  rw [effSlot_char, effSlot_char, lookup_map_slots]
  split
  · cases slots.lookup fi.name <;> simp [mapSlotT_unset, normSlot_mapT]
  · rfl

theorem eff_mapT {ρ σ : Type} (mm : MMX) (o : Opts) (g : ρ → σ) (top : Bool) (n : SNode ρ) :
    eff mm o top (mapT g n) = mapT g (eff mm o top n) := by
  induction n generalizing top with
  | mk via cls uuid slots kids ih =>
    simp only [mapT, mapTL_eq_map, eff, effKids_eq_map]
    congr 1
    · have : (fun fi => effSlot o.sd fi (slots.map fun e => (e.1, mapSlotT g e.2)))
          = fun fi => (effSlot o.sd fi slots).map fun e => (e.1, mapSlotT g e.2) := by
        funext fi; exact effSlot_mapT g o.sd fi slots
      rw [this, ← List.map_filterMap]
    · have hk : (kids.map (mapT g)).map (eff mm o false) = (kids.map (eff mm o false)).map (mapT g) := by
        rw [List.map_map, List.map_map]; exact List.map_congr_left fun k hk => ih k hk false
      rw [hk, List.map_flatMap]
      exact Py.flatMap_congr_mem fun fi _ => filter_via_map (mapT_via g) _ _

theorem effKids_mapTL {ρ σ : Type} (mm : MMX) (o : Opts) (g : ρ → σ) :
    (l : List (SNode ρ)) → effKids mm o (mapTL g l) = mapTL g (effKids mm o l) := by
  intro l
  simp only [effKids_eq_map, mapTL_eq_map, List.map_map]
  exact List.map_congr_left fun k _ => eff_mapT mm o g false k

theorem Shape_mapT {ρ σ : Type} (g : ρ → σ) (fi : FInfo) (s : SlotV ρ) (h : Shape fi s) : Shape fi (mapSlotT g s) := by
  cases s <;> exact h

theorem SlotOKg_mapT {ρ σ : Type} (mm : MMX) (P : ρ → Prop) (Q : σ → Prop) (g : ρ → σ) (hPQ : ∀ r, P r → Q (g r))
    (cls : Nat) (e : Str × SlotV ρ) (h : SlotOKg mm P cls e) : SlotOKg mm Q cls (e.1, mapSlotT g e.2) := by
  obtain ⟨fi, hf, hok⟩ := (SlotOKg_iff ..).mp h
  exact (SlotOKg_iff ..).mpr ⟨fi, hf, hok.imp_right fun h => ⟨Shape_mapT g fi e.2 h.1, SlotRefs_mapT P Q g hPQ e.2 h.2⟩⟩

theorem WFG_mapT {ρ σ : Type} (mm : MMX) (P : ρ → Prop) (Q : σ → Prop) (g : ρ → σ) (hPQ : ∀ r, P r → Q (g r))
    (n : SNode ρ) (h : WFG mm P n) : WFG mm Q (mapT g n) := by
  induction h with
  | mk via cls uuid slots kids hc hnd hs _ hk2 h1 ih =>
    simp only [mapT, mapTL_eq_map]
    refine WFG.mk _ _ _ _ _ hc ?_ ?_ ?_ ?_ ?_
    · rw [List.map_map]; exact hnd
    · intro e he
      obtain ⟨e0, he0, rfl⟩ := List.mem_map.mp he
      exact SlotOKg_mapT mm P Q g hPQ cls e0 (hs e0 he0)
    · exact List.forall_mem_map.mpr ih
    · intro k hkm
      obtain ⟨k0, hk0, rfl⟩ := List.mem_map.mp hkm
      obtain ⟨fi, hf, hkc, hmem⟩ := hk2 k0 hk0
      refine ⟨fi, by simpa using hf, hkc, ?_⟩
      simp only [mapT_via]
      exact List.mem_map.mpr ⟨(k0.via, SlotV.kids), hmem, rfl⟩
    · intro fi hfi hkc hm
      rw [filter_via_map (mapT_via g), List.length_map]
      exact h1 fi hfi hkc hm

theorem WFGL_mono {ρ : Type} (mm : MMX) (P Q : ρ → Prop) (hPQ : ∀ r, P r → Q r) :
    (l : List (SNode ρ)) → (∀ k ∈ l, WFG mm P k) → ∀ k ∈ l, WFG mm Q k :=
  fun _ h k hk => by simpa only [mapT_id] using WFG_mapT mm P Q id hPQ k (h k hk)

/-! ### the normal form holds no reference that the object does not hold -/

theorem SlotRefs_unset {ρ : Type} (P : ρ → Prop) (fi : FInfo) : SlotRefs P (unsetSlot fi : SlotV ρ) := by
  unfold unsetSlot
  split
  · split
    · trivial
    · split <;> trivial
  · split
    · exact nofun
    · trivial

theorem SlotRefs_norm {ρ : Type} (P : ρ → Prop) (sd : Bool) (fi : FInfo) (s : SlotV ρ) (h : SlotRefs P s) :
    SlotRefs P (normSlot sd fi s) := by
  cases s with
  | attr1 v => simp only [normSlot]; split <;> trivial
  | _ => simpa [normSlot] using h

theorem effSlot_refs {ρ : Type} (P : ρ → Prop) (sd : Bool) (fi : FInfo) (slots : List (Str × SlotV ρ))
    (hs : ∀ e ∈ slots, SlotRefs P e.2) (e : Str × SlotV ρ) (h : effSlot sd fi slots = some e) : SlotRefs P e.2 := by
  rw [effSlot_char] at h
  split at h <;> simp at h
  subst h
  cases hl : slots.lookup fi.name with
  | none => exact SlotRefs_unset P fi
  | some s => exact SlotRefs_norm P sd fi s (hs _ (lookup_mem slots fi.name s hl))

theorem AllRefs_eff {ρ : Type} (P : ρ → Prop) (mm : MMX) (o : Opts) (top : Bool) (n : SNode ρ) (h : AllRefs P n) :
    AllRefs P (eff mm o top n) := by
  induction h generalizing top with
  | mk via cls uuid slots kids hs _ ih =>
    simp only [eff, effKids_eq_map]
    refine AllRefs.mk _ _ _ _ _ ?_ ?_
    · intro e he
      obtain ⟨fi, _, hfe⟩ := List.mem_filterMap.mp he
      exact effSlot_refs P o.sd fi slots hs e hfe
    · intro k hkm
      obtain ⟨fi, _, hkf⟩ := List.mem_flatMap.mp hkm
      obtain ⟨k0, hk0, rfl⟩ := List.mem_map.mp (List.mem_filter.mp hkf).1
      exact ih k0 hk0 false

theorem AllRefs_effKids {ρ : Type} (P : ρ → Prop) (mm : MMX) (o : Opts) :
    (l : List (SNode ρ)) → (∀ k ∈ l, AllRefs P k) → ∀ k ∈ effKids mm o l, AllRefs P k := by
  intro l h k hk
  obtain ⟨a, ha, rfl⟩ := List.mem_map.mp (effKids_eq_map mm o l ▸ hk)
  exact AllRefs_eff P mm o false a (h a ha)

/-- Document level, any format.  A format writes a tree with `enc` and reads it with `dec` into the normal form;
    references are written by `w` (as `g`, whose token is `t`) and resolved by `res` in the loaded forest.  If every
    reference can be written and its token resolves to the path it was written for, saving and loading a forest gives
    every root's normal form with every reference on its original target. -/
theorem doc_roundtrip_codec {τ D : Type} (mm : MMX) (o : Opts) (enc : SNode τ → D) (dec : D → Option (SNode Str))
    (w : Path → Option τ) (g : Path → τ) (t : Path → Str) (res : List (SNode Str) → Str → Option Path)
    (roots : List (SNode Path))
    (hw : ∀ r ∈ roots, mapRefs w r = some (mapT g r))
    (hcodec : ∀ r ∈ roots, dec (enc (mapT g r)) = some (eff mm o true (mapT t r)))
    (hres : ∀ r ∈ roots, AllRefs (fun p => res (roots.map fun r => eff mm o true (mapT t r)) (t p) = some p) r) :
    ((mapRefsL w roots).map fun rs => rs.map enc).bind
      (fun doc => match doc.mapM dec with | Option.none => Option.none | some rs => mapRefsL (res rs) rs)
      = some (roots.map (eff mm o true)) := by
  rw [mapRefsL_eq_mapM, Py.mapM_some_of_forall _ _ roots hw]
  simp only [Option.map_some, Option.bind_some, List.map_map]
  rw [List.mapM_map, Py.mapM_some_of_forall (dec ∘ enc ∘ mapT g) _ roots hcodec]
  simp only
  rw [mapRefsL_eq_mapM, List.mapM_map]
  refine Py.mapM_some_of_forall _ _ roots fun r hr => ?_
  -- the loaded root is the normal form with its references written as tokens: read them back
  show mapRefs _ (eff mm o true (mapT t r)) = _
  rw [eff_mapT]
  exact mapRefs_back _ t _ (AllRefs_eff _ mm o true r (hres r hr))

theorem kidsVia_eff {ρ : Type} {P : ρ → Prop} (mm : MMX) (o : Opts) (hmm : MMOK mm) (top : Bool) (n : SNode ρ) (h : WFG mm P n) (f : Str) :
    kidsVia (eff mm o top n) f = (kidsVia n f).map (eff mm o false) := by
  cases h with
  | mk via cls uuid slots kids hc hnd hs hk hk2 h1 =>
    -- the children of the normal form, keyed by the containment features of the class
    let l : List (Str × Unit) := ((mm.feats cls).filter fun fi => fi.kind = .cont).map fun fi => (fi.name, ())
    have hl : (l.map (·.1)).Nodup := by
      simp only [l, List.map_map]
      exact (hmm.nd cls).sublist (List.filter_sublist.map _)
    have hview := keyed_view (fun e : Str × Unit => (kids.map (eff mm o false)).filter fun k => k.via == e.1) SNode.via
      (fun e b hb => by simpa using (List.mem_filter.mp hb).2) l hl f
    unfold kidsVia
    simp only [eff, SNode.kids, effKids_eq_map]
    simp only [l, List.flatMap_map] at hview
    rw [hview, ← filter_via_map (eff_via mm o)]
    cases hlk : l.lookup f with
    | some _ => rfl
    | none =>
      -- no containment feature is called `f`, so no child sits under `f`
      refine (List.filter_eq_nil_iff.mpr fun k' hkm hv => ?_).symm
      obtain ⟨k, hk0, rfl⟩ := List.mem_map.mp hkm
      obtain ⟨fi, hf, hkc, _⟩ := hk2 k hk0
      obtain ⟨hname, hmem⟩ := find_name mm cls k.via fi hf
      have hv : k.via = f := by simpa using hv
      have : (f, ()) ∈ l := List.mem_map.mpr ⟨fi, List.mem_filter.mpr ⟨hmem, by simpa using hkc⟩, by rw [hname, hv]⟩
      simpa using List.lookup_eq_none_iff.mp hlk _ this

theorem kidsVia_mapT {ρ σ : Type} (g : ρ → σ) (n : SNode ρ) (f : Str) :
    kidsVia (mapT g n) f = (kidsVia n f).map (mapT g) := by
  cases n with
  | mk via cls uuid slots kids => simp only [kidsVia, mapT, SNode.kids, mapTL_eq_map, filter_via_map (mapT_via g)]

theorem kidsVia_loaded {ρ σ : Type} {P : ρ → Prop} (mm : MMX) (o : Opts) (hmm : MMOK mm) (g : ρ → σ) (b : Bool) (n : SNode ρ)
    (h : WFG mm P n) (f : Str) :
    kidsVia (eff mm o b (mapT g n)) f = (kidsVia n f).map fun k => eff mm o false (mapT g k) := by
  rw [kidsVia_eff mm o hmm b _ (WFG_mapT mm P (fun _ => True) g (fun _ _ => trivial) n h), kidsVia_mapT, List.map_map]
  rfl

theorem follow_loaded {ρ σ : Type} {P : ρ → Prop} (mm : MMX) (o : Opts) (hmm : MMOK mm) (g : ρ → σ)
    (segs : List (Str × Option Nat)) :
    ∀ (b : Bool) (n : SNode ρ), WFG mm P n → (follow (eff mm o b (mapT g n)) segs).isSome = (follow n segs).isSome := by
  induction segs with
  | nil => intro b n _; rfl
  | cons s t ih =>
    intro b n h
    obtain ⟨f, i⟩ := s
    simp only [follow, kidsVia_loaded mm o hmm g b n h f, List.getElem?_map]
    cases hk : (kidsVia n f)[i.getD 0]? with
    | none => rfl
    | some k =>
      cases h with
      | mk _ _ _ _ _ _ _ _ hkids _ _ => exact ih false k (hkids k (List.mem_filter.mp (List.mem_of_getElem? hk)).1)

theorem nodeAt_loaded {ρ σ : Type} {P : ρ → Prop} (mm : MMX) (o : Opts) (hmm : MMOK mm) (g : ρ → σ) (roots : List (SNode ρ))
    (h : ∀ r ∈ roots, WFG mm P r) (p : Path) :
    (nodeAt (roots.map fun r => eff mm o true (mapT g r)) p).isSome = (nodeAt roots p).isSome := by
  unfold nodeAt
  rw [List.getElem?_map]
  cases hr : roots[p.root]? with
  | none => rfl
  | some r => exact follow_loaded mm o hmm g p.segs true r (h r (List.mem_of_getElem? hr))

/-- what `resolveTok` needs of the text written for a path: no `#`, a leading `/`, and it reads back as the path -/
structure FragOK (render : Path → Str) (parse : Str → Option Path) (p : Path) : Prop where
  noHash : (render p).contains '#' = false
  slash : ∃ rest, render p = '/' :: rest
  back : parse (render p) = some p

theorem resolve_fragment {P : Path → Prop} (mm : MMX) (o : Opts) (hmm : MMOK mm) (render : Path → Str) (parse : Str → Option Path)
    (roots : List (SNode Path)) (g : Path → Str) (hwf : ∀ r ∈ roots, WFG mm P r)
    (p : Path) (hvalid : (nodeAt roots p).isSome = true) (hf : FragOK render parse p) :
    resolveTok mm o parse (roots.map fun r => eff mm o true (mapT g r)) (render p) = some p := by
  unfold resolveTok
  obtain ⟨rest, hrest⟩ := hf.slash
  have hpr := hf.back
  rw [hf.noHash]
  rw [hrest] at hpr ⊢
  simp only [Bool.false_eq_true, if_false, bne_self_eq_false, hpr]
  -- the path is followed in the loaded forest as it is in the original
  obtain ⟨_, hn⟩ := Option.isSome_iff_exists.mp ((nodeAt_loaded mm o hmm g roots hwf p).trans hvalid)
  rw [hn]
  rfl

/-- `eURIFragment` and `Resource.resolve` agree on every path of a forest over plain feature names -/
theorem fragOK_renderPath {ρ : Type} (single : Bool) (roots : List (SNode ρ)) (hsingle : single = true → roots.length = 1) (p : Path)
    (hvalid : (nodeAt roots p).isSome = true) (hnames : ∀ s ∈ p.segs, NameOK s.1 ∧ '#' ∉ s.1) :
    FragOK (renderPath single) parsePath p := by
  refine ⟨render_no_hash single p fun s hs => (hnames s hs).2, render_head single p,
    parse_render single p (fun s hs => (hnames s hs).1) fun hs => ?_⟩
  -- a single root: the only root index `nodeAt` follows is 0
  unfold nodeAt at hvalid
  cases hr : roots[p.root]? with
  | none => rw [hr] at hvalid; cases hvalid
  | some _ =>
    have := (List.getElem?_eq_some_iff.mp hr).1
    have := hsingle hs
    omega

end XDoc
