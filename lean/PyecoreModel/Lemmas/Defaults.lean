import PyecoreModel.Model.Defaults
/-! What `dflt`, `read`, `write` and `step` do to each field of the state, and the no-aliasing invariant (C15). -/
namespace Dflt
variable (src : Nat → Src) {s : St} {o f : Nat}

theorem dflt_fields (s : St) (f : Nat) :
    (dflt src s f).2.holder = s.holder ∧ (dflt src s f).2.isset = s.isset ∧
    (∀ c, c ≠ s.next → (dflt src s f).2.heap c = s.heap c) := by
  unfold dflt; cases src f <;> refine ⟨rfl, rfl, ?_⟩ <;> intro c hc <;> simp [hc]

theorem read_held {v : V} (h : s.holder o f = some v) : read src s o f = (v, s) := by
  unfold read; rw [h]

theorem read_unheld (h : s.holder o f = Option.none) :
    read src s o f = ((dflt src s f).1, (dflt src s f).2.setHolder o f (dflt src s f).1) := by
  unfold read; rw [h]

theorem read_isset (s : St) (o f : Nat) : (read src s o f).2.isset = s.isset := by
  cases h : s.holder o f with
  | some v => rw [read_held src h]
  | none => rw [read_unheld src h]; exact (dflt_fields src s f).2.1

theorem read_holds (s : St) (o f : Nat) : (read src s o f).2.holder o f = some (read src s o f).1 := by
  cases h : s.holder o f with
  | some v => rw [read_held src h]; exact h
  | none => rw [read_unheld src h]; simp [St.setHolder]

theorem read_keeps (o f : Nat) {o' f' : Nat} {w : V} (hw : s.holder o' f' = some w) :
    (read src s o f).2.holder o' f' = some w := by
  cases h : s.holder o f with
  | some v => rw [read_held src h]; exact hw
  | none =>
    have hne : ¬ (o' = o ∧ f' = f) := by rintro ⟨rfl, rfl⟩; rw [h] at hw; cases hw
    rw [read_unheld src h]; simp [St.setHolder, hne, (dflt_fields src s f).1, hw]

theorem read_heap (o f : Nat) {c : Nat} (hc : c < s.next) : (read src s o f).2.heap c = s.heap c := by
  cases h : s.holder o f with
  | some v => rw [read_held src h]
  | none => rw [read_unheld src h]; exact (dflt_fields src s f).2.2 c (Nat.ne_of_lt hc)

theorem read_view (o f : Nat) {o' f' : Nat} {v : V} (hal : ∀ o f c, s.holder o f = some (.cell c) → c < s.next)
    (hv : s.holder o' f' = some v) : view (read src s o f).2 v = view s v := by
  cases v with
  | cell c => rw [view, view, read_heap src o f (hal _ _ _ hv)]
  | none | imm => rfl

/-- whether `op` writes or deletes the feature `o.f`: `_isset` changes for no other operation, in particular not for a read
(`run_isset`) -/
def touches (o f : Nat) : Op → Bool
  | .write o' f' _ | .writeNone o' f' | .writeFresh o' f' | .del o' f' => o' = o && f' = f
  | _ => false

theorem write_isset (s : St) (o f o' f' : Nat) (v : V) :
    (write s o' f' v).isset o f = (decide (o' = o) && decide (f' = f) || s.isset o f) := by
  simp only [write, eq_comm (a := o'), eq_comm (a := f'), ← Bool.decide_and]
  split <;> simp [*]

theorem step_isset (s : St) (op : Op) (o f : Nat) :
    (step src s op).isset o f = (touches o f op || s.isset o f) := by
  cases op with
  | read o' f' => simp only [step, read_isset, touches, Bool.false_or]
  | write o' f' i | writeNone o' f' | writeFresh o' f' => exact write_isset _ o f o' f' _
  | del o' f' => simp only [step, del, write_isset, touches, (dflt_fields src s f').2.1]
  | mutateRead o' f' k =>
    simp only [step, touches, Bool.false_or]
    split <;> simp only [mutate, read_isset]

theorem run_isset (ops : List Op) (s : St) (o f : Nat) :
    (ops.foldl (step src) s).isset o f = (s.isset o f || ops.any (touches o f)) := by
  induction ops generalizing s with
  | nil => simp
  | cons op t ih => rw [List.foldl_cons, ih, step_isset, List.any_cons, Bool.or_comm (touches o f op), Bool.or_assoc]

/-- holders never share a mutable value; held cells are allocated; unallocated cells are empty -/
def NoAlias (s : St) : Prop :=
  (∀ o f c, s.holder o f = some (.cell c) → c < s.next) ∧
  (∀ o1 f1 o2 f2 c, s.holder o1 f1 = some (.cell c) → s.holder o2 f2 = some (.cell c) → o1 = o2 ∧ f1 = f2) ∧
  (∀ c, s.next ≤ c → s.heap c = [])

/-- the declarations hand out no shared mutable default -/
def NoShared (src : Nat → Src) : Prop := ∀ f c, src f ≠ .shared c

/-- storing `v` creates no alias: if it is a mutable value, it is allocated and nobody holds it -/
def Unheld (s : St) (v : V) : Prop := ∀ c, v = .cell c → c < s.next ∧ ∀ o f, s.holder o f ≠ some (.cell c)

/-- `write` differs from `setHolder` in `_isset` only, which `NoAlias` does not look at -/
theorem noAlias_write {v : V} (h : NoAlias s ∧ Unheld s v) (o f : Nat) : NoAlias (write s o f v) := by
  obtain ⟨⟨h1, h2, h3⟩, hv⟩ := h
  refine ⟨?_, ?_, h3⟩
  · intro o' f' c hc
    simp only [write, St.setHolder] at hc
    split at hc
    · exact (hv c (Option.some.inj hc)).1
    · exact h1 _ _ _ hc
  · intro o1 f1 o2 f2 c a b
    simp only [write, St.setHolder] at a b
    split at a <;> split at b
    · rename_i e1 e2; exact ⟨e1.1.trans e2.1.symm, e1.2.trans e2.2.symm⟩
    · exact absurd b ((hv c (Option.some.inj a)).2 _ _)
    · exact absurd a ((hv c (Option.some.inj b)).2 _ _)
    · exact h2 _ _ _ _ _ a b

/-- allocation: the next cell, whatever it is filled with, is unheld -/
theorem noAlias_alloc (h : NoAlias s) {s' : St} (hh : s'.holder = s.holder) (hn : s'.next = s.next + 1)
    (hp : ∀ c, c ≠ s.next → s'.heap c = s.heap c) : NoAlias s' ∧ Unheld s' (.cell s.next) := by
  obtain ⟨h1, h2, h3⟩ := h
  rw [NoAlias, Unheld, hh, hn]
  refine ⟨⟨fun o f c hc => Nat.lt_succ_of_lt (h1 o f c hc), h2, fun c hc => ?_⟩, ?_⟩
  · rw [hp c (by omega)]; exact h3 c (by omega)
  · intro c hc; cases hc
    exact ⟨Nat.lt_succ_self _, fun o f hh => absurd (h1 _ _ _ hh) (Nat.lt_irrefl _)⟩

variable {src}

theorem noAlias_dflt (hs : NoShared src) (h : NoAlias s) (f : Nat) :
    NoAlias (dflt src s f).2 ∧ Unheld (dflt src s f).2 (dflt src s f).1 := by
  unfold dflt
  cases hsrc : src f with
  | none' | imm => exact ⟨h, fun _ e => nomatch e⟩
  | shared c => exact absurd hsrc (hs f c)
  | factory init => exact noAlias_alloc h rfl rfl (fun c hc => by simp [hc])

theorem noAlias_read (hs : NoShared src) (h : NoAlias s) (o f : Nat) : NoAlias (read src s o f).2 := by
  cases hh : s.holder o f with
  | some v => rw [read_held src hh]; exact h
  | none => rw [read_unheld src hh]; exact noAlias_write (noAlias_dflt hs h f) o f

theorem noAlias_step (hs : NoShared src) (h : NoAlias s) (op : Op) : NoAlias (step src s op) := by
  cases op with
  | read o f => exact noAlias_read hs h o f
  | write o f i => exact noAlias_write (v := .imm i) ⟨h, fun _ e => nomatch e⟩ o f
  | writeNone o f => exact noAlias_write (v := .none) ⟨h, fun _ e => nomatch e⟩ o f
  | writeFresh o f => exact noAlias_write (noAlias_alloc h (s' := { s with next := s.next + 1 }) rfl rfl fun _ _ => rfl) o f
  | del o f => exact noAlias_write (noAlias_dflt hs h f) o f
  | mutateRead o f k =>
    have hr := noAlias_read hs h o f
    simp only [step]
    split
    · rename_i c hc
      -- the cell read is held, hence allocated: unallocated cells stay empty
      have hlt : c < (read src s o f).2.next := hr.1 o f c (by rw [read_holds, hc])
      refine ⟨hr.1, hr.2.1, fun c' hc' => ?_⟩
      have hne : c' ≠ c := fun e => absurd (e ▸ hlt) (Nat.not_lt.2 hc')
      simp only [mutate, hne, if_false]; exact hr.2.2 c' hc'
    · exact hr

theorem noAlias_init (n : Nat) : NoAlias (init n) := by
  refine ⟨?_, ?_, ?_⟩ <;> simp [init]

theorem noAlias_run (hs : NoShared src) (n : Nat) (ops : List Op) : NoAlias (run src n ops) :=
  List.foldlRecOn ops (step src) (noAlias_init n) fun _ h op _ => noAlias_step hs h op

end Dflt
