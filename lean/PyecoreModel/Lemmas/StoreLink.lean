import PyecoreModel.Lemmas.StoreInv
/-! `St.addEnd` stores into one end of a link; `linkRaw` is `addEnd` once, or twice when there is an opposite (`linkRaw_eq`),
and preserves the invariants on prepared ends (`LinkPre`).  `link` is `linkPrep` — releases that prepare the ends — then
`linkRaw`, and so preserves them always.  Last, what release and `link` come to on a reference without opposite. -/
namespace Store
variable (mm : MM)

/-- the slot after `y` is stored into it, at `pos` or at the end: a single-valued one holds `y` alone -/
def storeVal (F : Feature) (l : List Oid) (y : Oid) (pos : Option Int) : List Oid :=
  if F.many then addVal F.isList l y (pos.getD l.length) else [y]

theorem storeVal_sub {F : Feature} {l y pos b} : b ∈ storeVal F l y pos → b ∈ l ∨ b = y := by
  unfold storeVal; split
  · exact mem_addVal.1
  · intro h; exact Or.inr (List.mem_singleton.1 h)

theorem storeVal_mem (F : Feature) (l y pos) : y ∈ storeVal F l y pos := by
  unfold storeVal; split
  · exact mem_addVal.2 (Or.inr rfl)
  · exact List.mem_singleton.2 rfl

theorem mem_storeVal {F : Feature} {l y pos b} (h : F.many = false → l = []) :
    b ∈ storeVal F l y pos ↔ b ∈ l ∨ b = y := by
  unfold storeVal; split
  · exact mem_addVal
  · rename_i hm; rw [h (by simpa using hm)]; simp

theorem storeVal_nodup {F : Feature} {l y pos} (hl : F.isList = false) (hn : l.Nodup) : (storeVal F l y pos).Nodup := by
  unfold storeVal; split
  · rw [hl]; exact addVal_nodup _ _ _ hn
  · simp

/-- One end of a link written: `y` enters `x.f`, and names `x.f` as its container when `f` is a containment. -/
def St.addEnd (s : St) (x : Oid) (f : Fid) (y : Oid) (pos : Option Int) : St :=
  s.putEnd mm x f (storeVal (mm.feat f) (s.rs x f) y pos) y (some (x, f))

theorem linkRaw_eq (s : St) (x f y pos) :
    linkRaw mm s x f y pos =
      match (mm.feat f).opp with
      | none => s.addEnd mm x f y (some pos)
      | some g => (s.addEnd mm x f y (some pos)).addEnd mm y g x none := by
  simp only [St.addEnd, storeVal, Option.getD, ← appendVal_eq_addVal]
  rfl

@[simp] theorem linkRaw_eres (s : St) (x f y pos) : (linkRaw mm s x f y pos).eres = s.eres := by
  rw [linkRaw_eq]; split <;> simp [St.addEnd]
@[simp] theorem linkRaw_rcont (s : St) (x f y pos) : (linkRaw mm s x f y pos).rcont = s.rcont := by
  rw [linkRaw_eq]; split <;> simp [St.addEnd]

theorem linkRaw_cont (s : St) (x f y pos o) :
    (linkRaw mm s x f y pos).cont o =
      if o = x ∧ ∃ g, (mm.feat f).opp = some g ∧ (mm.feat g).cont = true then
        (match (mm.feat f).opp with | some g => some (y, g) | none => none)
      else if o = y ∧ (mm.feat f).cont = true then some (x, f)
      else s.cont o := by
  rw [linkRaw_eq]
  cases (mm.feat f).opp with
  | none => simp [St.addEnd]
  | some g => simp only [St.addEnd, putEnd_cont, Option.some.injEq, exists_eq_left']

theorem addEnd_rs_ne (s : St) (x f y pos a f') (h : f' ≠ f) : (s.addEnd mm x f y pos).rs a f' = s.rs a f' := by
  simp [St.addEnd, h]

theorem addEnd_mem (s : St) (x f y pos) : y ∈ (s.addEnd mm x f y pos).rs x f := by
  simp [St.addEnd, storeVal_mem]

theorem addEnd_sub {s : St} {x f y pos a f' b} (hb : b ∈ (s.addEnd mm x f y pos).rs a f') :
    b ∈ s.rs a f' ∨ (a = x ∧ f' = f ∧ b = y) := by
  simp only [St.addEnd, putEnd_rs] at hb
  split at hb
  · rename_i h; obtain ⟨rfl, rfl⟩ := h
    exact (storeVal_sub hb).imp_right fun e => ⟨rfl, rfl, e⟩
  · exact Or.inl hb

theorem mem_addEnd (s : St) (x f y pos a f' b) (h : (mm.feat f).many = false → s.rs x f = []) :
    b ∈ (s.addEnd mm x f y pos).rs a f' ↔ b ∈ s.rs a f' ∨ (a = x ∧ f' = f ∧ b = y) := by
  simp only [St.addEnd, putEnd_rs]
  split
  · rename_i hc; obtain ⟨rfl, rfl⟩ := hc
    simp [mem_storeVal h]
  · rename_i hc
    exact ⟨Or.inl, fun hb => hb.elim id (fun e => absurd ⟨e.1, e.2.1⟩ hc)⟩

theorem linkRaw_mem_sub (s : St) (x f y pos a f' b) (hb : b ∈ (linkRaw mm s x f y pos).rs a f') :
    b ∈ s.rs a f' ∨ (a = x ∧ f' = f ∧ b = y) ∨ ((mm.feat f).opp = some f' ∧ a = y ∧ b = x) := by
  rw [linkRaw_eq] at hb
  cases hopp : (mm.feat f).opp with
  | none => rw [hopp] at hb; exact (addEnd_sub mm hb).imp_right Or.inl
  | some g =>
    rw [hopp] at hb
    rcases addEnd_sub mm hb with h | ⟨rfl, rfl, rfl⟩
    · exact (addEnd_sub mm h).imp_right Or.inl
    · exact Or.inr (Or.inr ⟨rfl, rfl, rfl⟩)

/-- Preconditions of `linkRaw`: single-valued ends are empty, the ends to be contained have no owner. -/
structure LinkPre (s : St) (x : Oid) (f : Fid) (y : Oid) : Prop where
  empty : (mm.feat f).many = false → s.rs x f = []
  emptyOpp : ∀ g, (mm.feat f).opp = some g → (mm.feat g).many = false → s.rs y g = []
  free : (mm.feat f).cont = true → Free s y
  freeOpp : ∀ g, (mm.feat f).opp = some g → (mm.feat g).cont = true → Free s x

theorem mem_linkRaw (hwf : mm.WF) {s : St} {x f y pos a f' b} (hp : LinkPre mm s x f y) :
    b ∈ (linkRaw mm s x f y pos).rs a f' ↔
      b ∈ s.rs a f' ∨ (a = x ∧ f' = f ∧ b = y) ∨ ((mm.feat f).opp = some f' ∧ a = y ∧ b = x) := by
  rw [linkRaw_eq]
  cases hopp : (mm.feat f).opp with
  | none => simp only [mem_addEnd mm s x f y _ a f' b hp.empty, reduceCtorEq, false_and, or_false]
  | some g =>
    have h2 : (mm.feat g).many = false → (s.addEnd mm x f y (some pos)).rs y g = [] := fun hm => by
      rw [addEnd_rs_ne mm s x f y _ y g (hwf.opp_mutual f g hopp).2.symm]; exact hp.emptyOpp g hopp hm
    simp only [mem_addEnd mm _ y g x none a f' b h2, mem_addEnd mm s x f y _ a f' b hp.empty, Option.some.injEq, or_assoc,
      eq_comm (a := g), and_left_comm (a := a = y)]

theorem linkRaw_sym (hwf : mm.WF) (s : St) (hs : Sym mm s) (x f y pos) (hp : LinkPre mm s x f y) :
    Sym mm (linkRaw mm s x f y pos) := by
  intro f' g' hfg a b
  -- both sides gain the same link
  rw [mem_linkRaw mm hwf hp, mem_linkRaw mm hwf hp, hs f' g' hfg a b,
    link_mirror mm hwf hfg x f y a b]

theorem addEnd_card (s : St) (hc : Card mm s) (x f y pos) : Card mm (s.addEnd mm x f y pos) :=
  putEnd_card mm s hc (fun hm => by simp [storeVal, hm]) (fun hl => storeVal_nodup hl ((hc x f).2 hl))

theorem linkRaw_card (s : St) (hc : Card mm s) (x f y pos) : Card mm (linkRaw mm s x f y pos) := by
  rw [linkRaw_eq]
  split
  · exact addEnd_card mm s hc _ _ _ _
  · exact addEnd_card mm _ (addEnd_card mm s hc _ _ _ _) _ _ _ _

/-- `Own` holds end by end: an object without back-pointer is in no containment slot, so the one written is the only one -/
theorem addEnd_own (s : St) (ho : Own mm s) (x f y pos) (h1 : (mm.feat f).many = false → s.rs x f = [])
    (hfree : (mm.feat f).cont = true → s.cont y = none) : Own mm (s.addEnd mm x f y pos) := by
  intro o p f'
  rw [mem_addEnd mm s x f y pos p f' o h1]
  simp only [St.addEnd, putEnd_cont]
  split
  · rename_i h; obtain ⟨rfl, hc⟩ := h
    constructor
    · intro h; cases h; exact ⟨hc, Or.inr ⟨rfl, rfl, rfl⟩⟩
    · rintro ⟨hcf, hm | ⟨rfl, rfl, _⟩⟩
      · have := (ho o p f').2 ⟨hcf, hm⟩
        rw [hfree hc] at this; cases this
      · rfl
  · rename_i h
    rw [ho o p f']
    constructor
    · exact fun ⟨a, b⟩ => ⟨a, Or.inl b⟩
    · rintro ⟨hcf, hm | ⟨rfl, rfl, rfl⟩⟩
      · exact ⟨hcf, hm⟩
      · exact absurd ⟨rfl, hcf⟩ h

theorem linkRaw_own (hwf : mm.WF) (s : St) (ho : Own mm s) (x f y pos) (hp : LinkPre mm s x f y) :
    Own mm (linkRaw mm s x f y pos) := by
  rw [linkRaw_eq]
  have h1 := addEnd_own mm s ho x f y (some pos) hp.empty (fun hc => (hp.free hc).1)
  cases hopp : (mm.feat f).opp with
  | none => exact h1
  | some g =>
    have hfg := hwf.opp_mutual f g hopp
    refine addEnd_own mm _ h1 y g x none (fun hm => ?_) (fun hc => ?_)
    · rw [addEnd_rs_ne mm s x f y _ y g hfg.2.symm]; exact hp.emptyOpp g hopp hm
    · -- `g` is a containment, so `f` is none and the first end left the back-pointers alone
      simp only [St.addEnd, putEnd_cont, (hwf.cont_opp g f hfg.1 hc).1, Bool.false_eq_true, and_false, if_false]
      exact (hp.freeOpp g hopp hc).1

theorem linkRaw_resOK (s : St) (hr : ResOK s) (x f y pos) (hp : LinkPre mm s x f y) :
    ResOK (linkRaw mm s x f y pos) := by
  rw [linkRaw_eq]
  have h1 : ResOK (s.addEnd mm x f y (some pos)) := putEnd_resOK mm s hr (fun hc _ => (hp.free hc).2)
  split
  · exact h1
  · rename_i g hg
    exact putEnd_resOK mm _ h1 (fun hc _ => (putEnd_eres mm ..).symm ▸ (hp.freeOpp g hg hc).2)

theorem linkRaw_inv (hwf : mm.WF) (s : St) (h : Inv mm s) (x f y pos) (hp : LinkPre mm s x f y) :
    Inv mm (linkRaw mm s x f y pos) :=
  ⟨linkRaw_sym mm hwf s h.sym x f y pos hp, linkRaw_card mm s h.card x f y pos,
   linkRaw_own mm hwf s h.own x f y pos hp, linkRaw_resOK mm s h.res x f y pos hp⟩

theorem linkRaw_frame (s : St) (x f y pos) : Frame s (linkRaw mm s x f y pos) := by
  rw [linkRaw_eq]; split
  · exact putEnd_frame mm ..
  · exact (putEnd_frame mm ..).trans (putEnd_frame mm ..)

/-! ### `link` = release the occupants of single-valued ends, detach what becomes contained, `linkRaw` -/

def relOcc (s : St) (x : Oid) (f : Fid) : St :=
  if (mm.feat f).many then s else
    match s.rs x f with
    | y0 :: _ => unlinkRaw mm s x f y0
    | [] => s

def detachIf (c : Bool) (s : St) (y : Oid) : St := if c then detach mm s y else s

def stealStep (s : St) (x : Oid) (f : Fid) (y : Oid) : St :=
  match (mm.feat f).opp with
  | none => s
  | some g =>
    if (mm.feat g).many then detachIf mm (mm.feat g).cont s x else
      match (detachIf mm (mm.feat g).cont s x).rs y g with
      | x0 :: _ => unlinkRaw mm (detachIf mm (mm.feat g).cont s x) x0 f y
      | [] => detachIf mm (mm.feat g).cont s x

/-- the state `linkRaw` finds when `link` calls it -/
def linkPrep (s : St) (x : Oid) (f : Fid) (y : Oid) : St :=
  stealStep mm (detachIf mm (mm.feat f).cont (relOcc mm s x f) y) x f y

theorem link_eq (s : St) (x f y pos) :
    link mm s x f y pos =
      if y ∈ s.rs x f ∧ (mm.feat f).isList = false then s else linkRaw mm (linkPrep mm s x f y) x f y pos := by
  rfl

theorem relOcc_drops (s : St) (x f) : Drops mm s (relOcc mm s x f) := by
  unfold relOcc; split
  · exact .refl s
  · exact unlinkHead_drops mm s x f

theorem unlinkRaw_only (s : St) (x f y a f' b) (hl : (mm.feat f').isList = false) (ha : s.rs a f' = [b]) (hy : y ∈ s.rs x f)
    (h : (a = x ∧ f' = f ∧ b = y) ∨ ((mm.feat f).opp = some f' ∧ a = y ∧ b = x)) : (unlinkRaw mm s x f y).rs a f' = [] := by
  rw [List.eq_nil_iff_forall_not_mem]
  intro c hc
  rw [mem_unlinkRaw mm hl, ha, List.mem_singleton] at hc
  exact hc.2 ⟨hy, hc.1 ▸ h⟩

theorem relOcc_empty (s : St) (hc : Card mm s) (x f) (hm : (mm.feat f).many = false) :
    (relOcc mm s x f).rs x f = [] := by
  unfold relOcc
  simp only [hm, Bool.false_eq_true, if_false]
  rcases Py.eq_nil_or_singleton ((hc x f).1 hm) with hx | ⟨y0, hx⟩
  · simp only [hx]
  · simp only [hx]
    exact unlinkRaw_only mm s x f y0 x f y0 (by simp [Feature.isList, hm]) hx (by simp [hx]) (Or.inl ⟨rfl, rfl, rfl⟩)

theorem detachIf_drops (c : Bool) (s : St) (y) : Drops mm s (detachIf mm c s y) := by
  unfold detachIf; split
  · exact detach_drops mm s y
  · exact .refl s

theorem detachIf_free (c : Bool) (s : St) (h : Inv mm s) (y) (hc : c = true) : Free (detachIf mm c s y) y := by
  unfold detachIf; simp only [hc, if_true]; exact detach_free mm s h y

theorem stealStep_drops (s : St) (x f y) : Drops mm s (stealStep mm s x f y) := by
  unfold stealStep
  split
  · exact .refl s
  · split
    · exact detachIf_drops mm _ s x
    · split
      · exact .unlink _ _ _ (detachIf_drops mm _ s x)
      · exact detachIf_drops mm _ s x

theorem stealStep_emptyOpp (hwf : mm.WF) (s : St) (h : Inv mm s) (x f y g)
    (hopp : (mm.feat f).opp = some g) (hm : (mm.feat g).many = false) :
    (stealStep mm s x f y).rs y g = [] := by
  unfold stealStep
  simp only [hopp, hm, Bool.false_eq_true, if_false]
  have hi := (detachIf_drops mm (mm.feat g).cont s x).inv hwf h
  generalize detachIf mm (mm.feat g).cont s x = s' at hi
  have hgf := hwf.opp_mutual f g hopp
  rcases Py.eq_nil_or_singleton ((hi.card y g).1 hm) with hx | ⟨x0, hx⟩
  · simp only [hx]
  · simp only [hx]
    -- releasing `y` from `x0.f` empties the mirror slot `y.g = [x0]`
    have hmem : y ∈ s'.rs x0 f := (hi.sym g f hgf.1 y x0).1 (by rw [hx]; simp)
    exact unlinkRaw_only mm s' x0 f y y g x0 (isList_false_of_opp mm hwf hgf.1) hx hmem (Or.inr ⟨hopp, rfl, rfl⟩)

theorem stealStep_freeOpp (s : St) (h : Inv mm s) (x f y g)
    (hopp : (mm.feat f).opp = some g) (hc : (mm.feat g).cont = true) : Free (stealStep mm s x f y) x := by
  have hfree := detachIf_free mm (mm.feat g).cont s h x hc
  unfold stealStep
  simp only [hopp]
  split
  · exact hfree
  · split
    · exact (unlinkRaw_shrinks mm _ _ _ _).free hfree
    · exact hfree

theorem linkPrep_drops (s : St) (x f y) : Drops mm s (linkPrep mm s x f y) :=
  ((relOcc_drops mm s x f).trans (detachIf_drops mm _ _ y)).trans (stealStep_drops mm _ x f y)

theorem linkPrep_pre (hwf : mm.WF) (s : St) (h : Inv mm s) (x f y) : LinkPre mm (linkPrep mm s x f y) x f y := by
  have d1 := relOcc_drops mm s x f
  have d2 := detachIf_drops mm (mm.feat f).cont (relOcc mm s x f) y
  have d3 := stealStep_drops mm (detachIf mm (mm.feat f).cont (relOcc mm s x f) y) x f y
  have i1 := d1.inv hwf h
  have i2 := d2.inv hwf i1
  refine ⟨?_, ?_, ?_, ?_⟩
  · intro hm
    exact (d2.trans d3).shrinks.empty (relOcc_empty mm s h.card x f hm)
  · intro g hopp hm
    exact stealStep_emptyOpp mm hwf _ i2 x f y g hopp hm
  · intro hc
    exact d3.shrinks.free (detachIf_free mm _ _ i1 y hc)
  · intro g hopp hc
    exact stealStep_freeOpp mm _ i2 x f y g hopp hc

theorem link_inv (hwf : mm.WF) (s : St) (h : Inv mm s) (x f y pos) : Inv mm (link mm s x f y pos) := by
  rw [link_eq]
  split
  · exact h
  · exact linkRaw_inv mm hwf _ ((linkPrep_drops mm s x f y).inv hwf h) x f y pos (linkPrep_pre mm hwf s h x f y)

theorem link_frame (s : St) (x f y pos) : Frame s (link mm s x f y pos) := by
  rw [link_eq]; split
  · exact Frame.refl s
  · exact (linkPrep_drops mm s x f y).frame.trans (linkRaw_frame mm _ _ _ _ _)

theorem link_mem (hwf : mm.WF) (s : St) (x f y pos) : y ∈ (link mm s x f y pos).rs x f := by
  rw [link_eq]
  split
  · rename_i h; exact h.1
  · rw [linkRaw_eq]
    cases hopp : (mm.feat f).opp with
    | none => exact addEnd_mem mm _ x f y _
    | some g =>
      dsimp only
      rw [addEnd_rs_ne mm _ y g x none x f (hwf.opp_mutual f g hopp).2]
      exact addEnd_mem mm _ x f y _

theorem link_mem_sub (s : St) (x f y pos a f' b)
    (hb : b ∈ (link mm s x f y pos).rs a f') :
    b ∈ s.rs a f' ∨ (a = x ∧ f' = f ∧ b = y) ∨ ((mm.feat f).opp = some f' ∧ a = y ∧ b = x) := by
  rw [link_eq] at hb
  split at hb
  · exact Or.inl hb
  · rcases linkRaw_mem_sub mm _ x f y pos a f' b hb with h | h
    · exact Or.inl ((linkPrep_drops mm s x f y).shrinks.1 _ _ _ h)
    · exact Or.inr h

/-! ### a reference without opposite: the release and `link` write one end -/

theorem detachIf_of_free (c : Bool) (s : St) (y : Oid) (h : c = true → Free s y) : detachIf mm c s y = s := by
  unfold detachIf; split
  · rename_i hc
    have hu : unroot s y = s := by unfold unroot; rw [(h hc).2]
    rw [detach_eq, hu, (h hc).1]
  · rfl

theorem unlinkRaw_noOpp (s : St) (x f y) (ho : (mm.feat f).opp = none) (hy : y ∈ s.rs x f) :
    unlinkRaw mm s x f y = s.putEnd mm x f (rmVal (mm.feat f).isList (s.rs x f) y) y none := by
  rw [unlinkRaw_eq]; simp only [hy, if_true, ho, St.dropEnd]

theorem link_noOpp (s : St) (x f y pos) (ho : (mm.feat f).opp = none) (hy : ¬ (y ∈ s.rs x f ∧ (mm.feat f).isList = false))
    (hfree : (mm.feat f).cont = true → Free (relOcc mm s x f) y) :
    link mm s x f y pos = (relOcc mm s x f).addEnd mm x f y (some pos) := by
  rw [link_eq, if_neg hy, linkRaw_eq]
  simp only [linkPrep, detachIf_of_free mm _ _ y hfree, stealStep, ho]

theorem relOcc_nil (s : St) (x f) (h : s.rs x f = []) : relOcc mm s x f = s := by
  unfold relOcc; rw [h]; split <;> rfl

theorem relOcc_single (s : St) (x f y0) (ho : (mm.feat f).opp = none) (hm : (mm.feat f).many = false) (h : s.rs x f = [y0]) :
    relOcc mm s x f = s.putEnd mm x f [] y0 none := by
  unfold relOcc
  rw [if_neg (by simp [hm]), h]
  dsimp only
  rw [unlinkRaw_noOpp mm s x f y0 ho (by rw [h]; simp), h]
  simp [Feature.isList, hm, rmVal]

end Store
